import DDP.Proofs.Lowering

/-!
# C02 — every program the front end accepts is compiled completely (operator table)

`DDP.Checker.admits` models the operator rules of the type checker over *all* type terms
(aliases, definitions, lists, Kombinationen of any nesting), `DDP.Lowering.lowerTy` the
lowering table of the code generator over IR types, `toIr` the translation of types.
Both are tied to the code by the exhaustive cell correspondence of `./check C02`.

Statement shape: if the checker admits `op` on operand types `ts` with result type `τ`, and
the operand types have IR types (`toIr`; undefined only for a list of lists or of `nichts` — a
recorded finding), then the lowering has a case for those IR types whose instruction is
well-typed, and its result IR type is the IR type of `τ`.

Proof shape: every rule of `admits` is `if guard then some τ else none`, and the guard validates
the operands against a few primitives; such an operand is that primitive up to aliases
(`prim_view`, `validated2`).  What is left of the goal speaks of primitives `p ∈ ps` only: the
cells of the two tables for this rule, at most nine, which `decide` compares (see `abs_lowers`).
Operators that share a row in both tables have the same goal up to unfolding `admits` and
`lowerTy`, so the lemma for the first of them is the proof for all.
-/

namespace DDP.C02
open DDP.Types DDP.Checker DDP.Lowering

theorem isOneOf_zb (t : Ty) (h : isOneOf t [zahl, byte] = true) : isOneOf t [zahl, komma, byte] = true :=
  have ⟨s, hs, g⟩ := isOneOf_iff.1 h
  isOneOf_iff.2 ⟨s, List.Sublist.subset (by decide) hs, g⟩

theorem abs_lowers {t τ : Ty} {i : IrTy} (ha : admits .abs [t] = some τ) (hi : toIr t = some i) :
    ∃ r, lowerTy .abs [i] = some r ∧ toIr τ = some r := by
  obtain ⟨hn, rfl⟩ := Option.ite_some_none_eq_some.1 ha
  obtain ⟨p, hp, g, rfl⟩ := prim_view numeric (isNumeric_eq_isOneOf t ▸ hn) hi
  simp only [equal, g, apply_ite toIr, hi]
  -- once the hypotheses that `revert p` would drag along are cleared, the goal is
  -- `∀ p ∈ numeric, ∃ r, lowerTy .abs [primIr p] = some r ∧ … = some r`: three cells, each decidable
  -- (`Option.decidableExistsMem`: `r` is what the first option holds)
  clear hi g hn ha; revert p; decide

/-- **Unary operators** -/
theorem accepted_lowers_unary (op : Op) (t τ : Ty) (i : IrTy)
    (ha : admits op [t] = some τ) (hi : toIr t = some i) :
    ∃ r, lowerTy op [i] = some r ∧ toIr τ = some r := by
  cases op with
  | abs | negate => exact abs_lowers ha hi
  | not =>
    obtain ⟨hv, rfl⟩ := Option.ite_some_none_eq_some.1 ha
    obtain ⟨p, hp, -, rfl⟩ := prim_view [.wahr] hv hi
    cases List.mem_singleton.1 hp
    exact ⟨_, rfl, rfl⟩
  | logicNot =>
    obtain ⟨hv, rfl⟩ := Option.ite_some_none_eq_some.1 ha
    obtain ⟨p, hp, -, rfl⟩ := prim_view intLike hv hi
    refine ⟨_, ?_, hi⟩
    clear hi; revert p; decide
  | len =>
    obtain ⟨h, rfl⟩ := Option.ite_some_none_eq_some.1 ha
    rcases seq_view h hi with ⟨_, _, -, rfl, -⟩ | ⟨-, rfl⟩ <;> exact ⟨_, rfl, rfl⟩
  | _ => cases ha

section
variable {l r τ : Ty} {li ri : IrTy} (hl : toIr l = some li) (hr : toIr r = some ri)
include hl hr

theorem plus_lowers (ha : admits .plus [l, r] = some τ) : ∃ x, lowerTy .plus [li, ri] = some x ∧ toIr τ = some x := by
  obtain ⟨hv, rfl⟩ := Option.ite_some_none_eq_some.1 ha
  obtain ⟨p, hp, q, hq, gl, gr, rfl, rfl⟩ := validated2 numeric hv hl hr
  simp only [equal, gl, gr]
  clear hl hr gl gr; revert p q; decide

theorem mod_lowers (ha : admits .mod [l, r] = some τ) : ∃ x, lowerTy .mod [li, ri] = some x ∧ toIr τ = some x := by
  obtain ⟨hv, rfl⟩ := Option.ite_some_none_eq_some.1 ha
  obtain ⟨p, hp, q, hq, gl, gr, rfl, rfl⟩ := validated2 intLike hv hl hr
  simp only [isOneOf, List.any, equal, gl, gr]
  clear hl hr gl gr; revert p q; decide

theorem sliceFrom_lowers (ha : admits .sliceFrom [l, r] = some τ) :
    ∃ x, lowerTy .sliceFrom [li, ri] = some x ∧ toIr τ = some x := by
  obtain ⟨h, rfl⟩ := Option.ite_some_none_eq_some.1 ha
  simp only [Bool.and_eq_true] at h
  obtain ⟨h1, h2⟩ := seq_operand h.1 hl
  exact ⟨li, by unfold lowerTy; simp [numericIr_of (isOneOf_zb _ h.2) hr, h2], h1⟩

end

/-- **Binary operators on numbers and truth values, comparisons, equality** -/
theorem accepted_lowers_binary_scalar (op : Op) (l r τ : Ty) (li ri : IrTy)
    (hop : op ∉ [Op.concat, Op.index, Op.sliceFrom, Op.sliceTo])
    (ha : admits op [l, r] = some τ) (hl : toIr l = some li) (hr : toIr r = some ri) :
    ∃ x, lowerTy op [li, ri] = some x ∧ toIr τ = some x := by
  cases op with
  | and | or | xor =>
    obtain ⟨hv, rfl⟩ := Option.ite_some_none_eq_some.1 ha
    obtain ⟨p, hp, q, hq, -, -, rfl, rfl⟩ := validated2 [.wahr] hv hl hr
    cases List.mem_singleton.1 hp; cases List.mem_singleton.1 hq
    exact ⟨_, rfl, rfl⟩
  | div | pow | log | lt | gt | le | ge =>
    obtain ⟨hv, rfl⟩ := Option.ite_some_none_eq_some.1 ha
    simp only [validate2, Bool.and_eq_true] at hv
    exact ⟨_, if_pos (by simp [numericIr_of hv.1 hl, numericIr_of hv.2 hr]), rfl⟩
  | plus | minus | mult => exact plus_lowers hl hr ha
  | mod | logicAnd | logicOr | logicXor => exact mod_lowers hl hr ha
  | shl | shr =>
    obtain ⟨hv, rfl⟩ := Option.ite_some_none_eq_some.1 ha
    obtain ⟨p, hp, q, hq, -, -, rfl, rfl⟩ := validated2 intLike hv hl hr
    refine ⟨_, ?_, hl⟩
    clear hl hr; revert p q; decide
  | eq | ne =>
    obtain ⟨he, rfl⟩ := Option.ite_some_none_eq_some.1 ha
    cases hl.symm.trans ((toIr_of_equal he).trans hr)
    exact ⟨_, if_pos rfl, rfl⟩
  | concat | index | sliceFrom | sliceTo => exact absurd (by decide) hop
  | _ => cases ha

/-- **Indexing and slicing** (`an der Stelle`, `ab dem`, `bis zum`) -/
theorem accepted_lowers_index_slice (op : Op) (l r τ : Ty) (li ri : IrTy)
    (hop : op = .index ∨ op = .sliceFrom ∨ op = .sliceTo)
    (ha : admits op [l, r] = some τ) (hl : toIr l = some li) (hr : toIr r = some ri) :
    ∃ x, lowerTy op [li, ri] = some x ∧ toIr τ = some x := by
  rcases hop with rfl | rfl | rfl
  · obtain ⟨h, hτ⟩ := Option.ite_none_right_eq_some.1 ha
    simp only [Bool.and_eq_true] at h
    have hn := numericIr_of (isOneOf_zb _ (by simpa [isOneOf] using h.2)) hr
    rcases seq_view h.1 hl with ⟨e, x, g, rfl, he⟩ | ⟨g, rfl⟩ <;> rw [g] at hτ <;> cases hτ
    · exact ⟨x, by unfold lowerTy; simp [hn], he⟩
    · exact ⟨.char, by unfold lowerTy; simp [hn], rfl⟩
  · exact sliceFrom_lowers hl hr ha
  · exact sliceFrom_lowers hl hr ha

/-- **Ternary operators** (`im Bereich von … bis …`, `zwischen … und …`, `…, falls …, ansonsten …`) -/
theorem accepted_lowers_ternary (op : Op) (l m r τ : Ty) (li mi ri : IrTy)
    (ha : admits op [l, m, r] = some τ) (hl : toIr l = some li) (hm : toIr m = some mi) (hr : toIr r = some ri) :
    ∃ x, lowerTy op [li, mi, ri] = some x ∧ toIr τ = some x := by
  cases op with
  | slice =>
    obtain ⟨h, rfl⟩ := Option.ite_some_none_eq_some.1 ha
    simp only [Bool.and_eq_true] at h
    obtain ⟨h1, h2⟩ := seq_operand h.1.1 hl
    exact ⟨li, by unfold lowerTy; simp [numericIr_of (isOneOf_zb _ h.1.2) hm, numericIr_of (isOneOf_zb _ h.2) hr, h2], h1⟩
  | between =>
    obtain ⟨h, rfl⟩ := Option.ite_some_none_eq_some.1 ha
    simp only [Bool.and_eq_true] at h
    exact ⟨_, if_pos (by simp [numericIr_of h.1.1 hl, numericIr_of h.1.2 hm, numericIr_of h.2 hr]), rfl⟩
  | falls =>
    obtain ⟨h, rfl⟩ := Option.ite_some_none_eq_some.1 ha
    simp only [Bool.and_eq_true] at h
    obtain ⟨_, hw, -, rfl⟩ := prim_view [.wahr] h.2 hm
    cases List.mem_singleton.1 hw
    cases hl.symm.trans ((toIr_of_equal h.1).trans hr)
    exact ⟨li, by unfold lowerTy; simp [primIr], hl⟩
  | _ => cases ha

/-- **Concatenation** (`verkettet mit`) for operands the checker sees through (everything
except a type *definition* of Text or of a list, see `concat_opaque_text_mismatch`), when the
result type has an IR type (is not a list of lists or of `nichts`). -/
theorem accepted_lowers_concat (l r τ : Ty) (li ri x : IrTy)
    (hol : ¬ OpaqueTextOrList l) (hor : ¬ OpaqueTextOrList r)
    (ha : admits .concat [l, r] = some τ) (hl : toIr l = some li) (hr : toIr r = some ri)
    (hτ : toIr τ = some x) : lowerTy .concat [li, ri] = some x := by
  by_cases h : ((!isList l && !isList r) && (equal l text || equal r text)) = true
  · -- two scalars, one a Text: both are Text or Buchstabe
    obtain ⟨hv, rfl⟩ := Option.ite_some_none_eq_some.1 ((if_pos h).symm.trans ha)
    obtain ⟨p, hp, q, hq, gl, gr, rfl, rfl⟩ := validated2 [.text, .buchstabe] hv hl hr
    cases hτ
    simp only [equal, gl, gr, Bool.and_eq_true] at h
    replace h := h.2
    clear hl hr gl gr; revert p q; decide
  · -- otherwise the element types agree; four cases list/scalar, as in the lowering
    obtain ⟨he, rfl⟩ := Option.ite_some_none_eq_some.1 ((if_neg h).symm.trans ha)
    obtain ⟨y, rfl, hy⟩ := toIr_list_some hτ
    have he := toIr_of_equal he
    rw [hy] at he
    have islist (z : IrTy) : isListIr (.list z) = true := rfl
    rcases concat_view hol hl with ⟨a, rfl, -, ea⟩ | ⟨nl, cl, el, tl⟩ <;>
      rcases concat_view hor hr with ⟨b, rfl, -, eb⟩ | ⟨nr, cr, er, tr⟩
    · cases hy.symm.trans ea; cases he.trans eb
      unfold lowerTy; simp [islist]
    · rw [er, hr] at he; cases hy.symm.trans ea; cases he
      unfold lowerTy; simp [islist, nr]
    · rw [el, hl] at hy; cases hy; cases he.trans eb
      unfold lowerTy; simp [islist, nl]
    · rw [el, hl] at hy; rw [er, hr] at he; cases hy; cases he
      -- neither is a Text, or the first rule would have applied
      simp only [cl, cr, tl, tr] at h
      simp at h
      unfold lowerTy; simp [nl, h]

/-- The excluded case is a real defect of the unchanged tree: for a type definition of Text the
checker types `n verkettet mit n` as a list of that definition, while the code generator, which
looks at IR types only, emits a *text* concatenation — the result IR types differ. -/
theorem concat_opaque_text_mismatch :
    admits .concat [.typedef 1 text, .typedef 1 text] = some (.list (.typedef 1 text)) ∧
    toIr (.typedef 1 text) = some .string ∧ toIr (.list (.typedef 1 text)) = some (.list .string) ∧
    lowerTy .concat [.string, .string] = some .string := by decide

/-- non-vacuity: aliases are seen through by both tables -/
example : admits .plus [.alias zahl, byte] = some zahl ∧ toIr (.alias zahl) = some .int ∧
    lowerTy .plus [.int, .byte] = some .int ∧
    admits .concat [.list (.alias text), text] = some (.list text) ∧
    lowerTy .concat [.list .string, .string] = some (.list .string) := by decide

end DDP.C02
