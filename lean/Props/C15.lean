import DDP.Impl.Generics

/-!
# C15 — a generic call behaves like its monomorphic specialisation (type level)

`DDP.Generics.unify` transcribes `UnifyGenericType`; a call fits when every argument type comes back
from unification (`fits`, the test of `alias.go`).  The theorems: a binding, once made, is never
changed; a type parameter bound to one type rejects an argument of another type; when a call fits,
the binding of each plain type parameter *is* the argument's type, so instantiating the parameter
type gives exactly the argument type (the specialisation the generic function is compiled as).
-/

namespace DDP.Generics

mutual
theorem Ty.beq_refl : (t : Ty) → Ty.beq t t = true
  | .prim n | .var n => beq_self_eq_true n
  | .list e => Ty.beq_refl e
  | .inst s as => Bool.and_eq_true_iff.2 ⟨beq_self_eq_true s, Ty.beqList_refl as⟩
theorem Ty.beqList_refl : (l : List Ty) → Ty.beqList l l = true
  | [] => rfl
  | a :: r => Bool.and_eq_true_iff.2 ⟨Ty.beq_refl a, Ty.beqList_refl r⟩
end

mutual
theorem Ty.eq_of_beq : (a b : Ty) → Ty.beq a b = true → a = b
  | .prim x, .prim y, h => by simp [Ty.beq] at h; simp [h]
  | .var x, .var y, h => by simp [Ty.beq] at h; simp [h]
  | .list x, .list y, h => by simp only [Ty.beq] at h; rw [Ty.eq_of_beq x y h]
  | .inst s as, .inst t bs, h => by
      simp only [Ty.beq, Bool.and_eq_true, beq_iff_eq] at h
      rw [h.1, Ty.eqList_of_beq as bs h.2]
  | .prim _, .var _, h | .prim _, .list _, h | .prim _, .inst _ _, h
  | .var _, .prim _, h | .var _, .list _, h | .var _, .inst _ _, h
  | .list _, .prim _, h | .list _, .var _, h | .list _, .inst _ _, h
  | .inst _ _, .prim _, h | .inst _ _, .var _, h | .inst _ _, .list _, h => by simp [Ty.beq] at h
theorem Ty.eqList_of_beq : (a b : List Ty) → Ty.beqList a b = true → a = b
  | [], [], _ => rfl
  | x :: xs, y :: ys, h => by
      simp only [Ty.beqList, Bool.and_eq_true] at h
      rw [Ty.eq_of_beq x y h.1, Ty.eqList_of_beq xs ys h.2]
  | [], _ :: _, h | _ :: _, [], h => by simp [Ty.beqList] at h
end

/-- instantiations with equal type arguments are one and the same type, with different arguments
different types (`Equal` decides exactly the equality of the argument lists) -/
theorem inst_equal_iff (s : Nat) (as bs : List Ty) : Ty.beq (.inst s as) (.inst s bs) = true ↔ as = bs := by
  constructor
  · intro h
    have := Ty.eq_of_beq _ _ h
    injection this
  · intro h; subst h; exact Ty.beq_refl _

theorem inst_different_struct (s t : Nat) (as bs : List Ty) (h : s ≠ t) : Ty.beq (.inst s as) (.inst t bs) = false := by
  simp [Ty.beq, h]

theorem lookup_append (σ τ : Bindings) (n : Nat) : lookup (σ ++ τ) n = (lookup σ n).or (lookup τ n) := by
  simp [lookup, List.find?_append, Option.map_or]

theorem bindOrLookup_prefix (σ : Bindings) (m : Nat) (arg : Ty) : σ <+: (bindOrLookup σ m arg).2 := by
  unfold bindOrLookup
  split
  · exact List.prefix_rfl
  · exact List.prefix_append ..

/-- the step `unifyArgs` and `unifyCore` share -/
theorem bindVar_prefix {p a g' : Ty} {σ σ' : Bindings}
    (hp : (match p with | .var m => bindOrLookup σ m a | g => (g, σ)) = (g', σ')) : σ <+: σ' := by
  split at hp
  · rename_i m; have := bindOrLookup_prefix σ m a; rwa [hp] at this
  · cases hp; exact List.prefix_rfl

theorem unifyArgs_prefix (s : Nat) (ps as : List Ty) (σ : Bindings) (acc : List Ty) : σ <+: (unifyArgs s ps as σ acc).2 := by
  fun_induction unifyArgs s ps as σ acc with
  | case1 | case2 => exact List.prefix_rfl
  | case3 _ _ _ _ _ _ _ _ hp _ ih => exact (bindVar_prefix hp).trans ih
  | case4 _ _ _ _ _ _ _ _ hp => exact bindVar_prefix hp

theorem unifyCore_prefix (arg gen : Ty) (σ : Bindings) : σ <+: (unifyCore arg gen σ).2 := by
  fun_cases unifyCore arg gen σ <;> rename_i hp <;> have hk := bindVar_prefix hp
  · exact hk
  · exact hk.trans (unifyArgs_prefix ..)
  · exact hk
  · exact hk

/-- unification only adds bindings, and adds them behind those it found -/
theorem unify_prefix (arg param : Ty) (σ : Bindings) : σ <+: (unify arg param σ).2 := by
  fun_induction unify arg param σ with
  | case1 a σ m => exact unifyCore_prefix a (.var m) σ
  | case2 _ _ _ _ _ _ _ ih => exact ih
  | case3 | case4 | case5 => exact List.prefix_rfl
  | case6 => exact unifyCore_prefix ..

/-- **a binding, once made, is never changed** by unifying further arguments -/
theorem unify_keeps : (arg param : Ty) → (σ : Bindings) → (n : Nat) → (t : Ty) → lookup σ n = some t →
    lookup (unify arg param σ).2 n = some t := by
  intro arg param σ n t h
  obtain ⟨τ, hτ⟩ := unify_prefix arg param σ
  rw [← hτ, lookup_append, h, Option.some_or]

theorem unify_var (arg : Ty) (n : Nat) (σ : Bindings) : unify arg (.var n) σ = unifyCore arg (.var n) σ := by
  cases arg <;> rfl

/-- `hs`: two instantiations of a generic Kombination are compared argument by argument (`unifyArgs`) -/
theorem fits_bound (arg t : Ty) (σ : Bindings) (n : Nat) (h : lookup σ n = some t)
    (hs : (∀ s as, t ≠ .inst s as) ∨ (∀ s as, arg ≠ .inst s as)) : fits arg (.var n) σ = (Ty.beq arg t, σ) := by
  rw [fits, unify_var, unifyCore, bindOrLookup, h]
  cases t with
  | inst s as =>
    cases arg with
    | inst s' bs => exact (hs.elim (· s as rfl) (· s' bs rfl)).elim
    | _ => rfl
  | _ => rfl

/-- the second argument meets the binding made by the first one; a different type is refused
(stated for bindings that are not instantiations of a generic Kombination, see `conflict_inst`) -/
theorem conflict_rejected (arg t : Ty) (σ : Bindings) (n : Nat) (h : lookup σ n = some t)
    (hne : Ty.beq arg t = false) (hsimple : ∀ s as, t ≠ .inst s as) :
    (fits arg (.var n) σ).1 = false := by
  rw [fits_bound arg t σ n h (.inl hsimple), hne]

/-- a parameter bound to an instantiation refuses an instantiation of another generic Kombination
(the case that made the compiler index past the type arguments before the repair) -/
theorem conflict_inst (s s' : Nat) (as bs : List Ty) (σ : Bindings) (n : Nat)
    (h : lookup σ n = some (.inst s as)) (hs : s ≠ s') :
    fits (.inst s' bs) (.var n) σ = (false, σ) := by
  simp [fits, unify, unifyCore, bindOrLookup, h, hs]

/-- an unbound plain type parameter is bound to the argument's type, and the call fits -/
theorem fresh_binds (arg : Ty) (σ : Bindings) (n : Nat) (h : lookup σ n = none) (hsimple : ∀ s as, arg ≠ .inst s as) :
    fits arg (.var n) σ = (true, σ ++ [(n, arg)]) := by
  rw [fits, unify_var, unifyCore, bindOrLookup, h]
  cases arg with
  | inst s as => exact (hsimple s as rfl).elim
  | _ => exact congrArg (·, _) (Ty.beq_refl _)

/-- the parameter is then bound to exactly the argument's type (the binding is what the specialisation puts in its place) -/
theorem fits_var_instantiates (arg : Ty) (σ : Bindings) (n : Nat) (hsimple : ∀ s as, arg ≠ .inst s as)
    (hf : (fits arg (.var n) σ).1 = true) :
    lookup (fits arg (.var n) σ).2 n = some arg := by
  cases hl : lookup σ n with
  | none =>
    rw [fresh_binds arg σ n hl hsimple]
    show lookup (σ ++ [(n, arg)]) n = some arg
    rw [lookup_append, hl]; simp [lookup]
  | some t =>
    rw [fits_bound arg t σ n hl (.inr hsimple)] at hf ⊢
    rw [Ty.eq_of_beq arg t hf]; exact hl

/-- non-vacuity: `f (T Liste, T)` called with (Zahlen Liste, Zahl) fits and binds T to Zahl;
called with (Zahlen Liste, Text) it does not fit -/
example : fitsAll [(.list (.prim 0), .list (.var 0)), (.prim 0, .var 0)] [] = (true, [(0, .prim 0)]) := by rfl
example : (fitsAll [(.list (.prim 0), .list (.var 0)), (.prim 5, .var 0)] []).1 = false := by decide

end DDP.Generics
