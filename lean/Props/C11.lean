import Props.C08

/-!
# C11 — optimisation level and link mode do not change program behaviour

The evaluation rules know neither an optimisation level nor a link mode: `run` is a function of the
program alone, so every configuration is compared with the *same* value (`vlib/props/C11.py`).

The one place where the code generator itself changes the lowering with the level is the call of a
function with a *constant* value parameter at `-O 2` (no copy of the argument, the callee does not
free it).  What makes that unobservable is stated here about the store of the evaluator: a holder
whose location nobody writes during the call reads the same as a copy taken before the call.
-/

namespace DDP.Spec

/-- the effects a callee can have on the store: writes through its own holders, and allocations -/
inductive Effect
  | write (b : Binding) (v : Val)
  | alloc (v : Val)

def applyEffect (st : State) : Effect → State
  | .write b v => (st.write b v).getD st
  | .alloc v => (st.alloc v).1

/-- no effect writes through a holder of location `l` -/
def Untouched (l : Nat) : List Effect → Prop
  | [] => True
  | .write b _ :: r => b.loc ≠ l ∧ Untouched l r
  | .alloc _ :: r => Untouched l r

theorem size_mono (st : State) (e : Effect) : st.store.size ≤ (applyEffect st e).store.size := by
  cases e with
  | alloc v => simp [applyEffect, State.alloc]
  | write b v =>
    rw [applyEffect]
    cases hw : st.write b v with
    | none => exact Nat.le_refl _
    | some st' => obtain ⟨_, _, _, _, rfl⟩ := write_eq_some hw; simp

theorem Untouched.tail {l e es} (h : Untouched l (e :: es)) : Untouched l es := by
  cases e with
  | alloc => exact h
  | write => exact h.2

theorem effect_keeps (st : State) (e : Effect) {es} (arg : Binding) (hl : arg.loc < st.store.size)
    (h : Untouched arg.loc (e :: es)) : (applyEffect st e).read arg = st.read arg := by
  cases e with
  | alloc v => exact alloc_read_old st v arg hl
  | write b v =>
    rw [applyEffect]
    cases hw : st.write b v with
    | none => rfl
    | some st' => exact write_other_loc st st' b arg v hw h.1

/-- **no-copy is unobservable**: a parameter bound to the caller's location (no copy, `-O 2`) and one bound to a copy
made before the call (`-O 0/1`) agree -/
theorem nocopy_unobservable (es : List Effect) (st : State) (arg : Binding)
    (hl : arg.loc < st.store.size) (h : Untouched arg.loc es) :
    (es.foldl applyEffect st).read arg = st.read arg := by
  induction es generalizing st with
  | nil => rfl
  | cons e es ih =>
    rw [List.foldl_cons, ih _ (Nat.lt_of_lt_of_le hl (size_mono st e)) h.tail, effect_keeps st e arg hl h]

/-- and the converse, why the condition is needed: a write through a holder of the same location and
path (`hsame`) is seen (this is the defect repaired in the call lowering: a global changed by the callee) -/
theorem aliased_write_seen (st st' : State) (g p : Binding) (v : Val)
    (hsame : p = g) (hroot : g.path = []) (hw : st.write g v = some st') : st'.read p = some v :=
  hsame ▸ write_read st st' g v hw

/-- the rules assign exactly one behaviour to a program (no level, no link mode among the arguments) -/
theorem one_behaviour (p : Program) (fuel : Nat) (a b : RunResult) (ha : a = run p fuel) (hb : b = run p fuel) : a = b := by
  rw [ha, hb]

example : Untouched 0 [.alloc (.int 1), .write ⟨1, [], .zahl⟩ (.int 2)] := by simp [Untouched]

end DDP.Spec
