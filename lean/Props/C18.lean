import DDP.Impl.Abi
import DDP.Impl.AbiLayout

/-!
# C18 — foreign C functions see the published value representation

The calling convention (`DDP/Impl/Abi.lean`) and, below, the layouts of `ddptypes.h` against those of the code generator
(`DDP/Impl/AbiLayout.lean` over `DDP.Generated.Abi`, regenerated on every run).
-/

namespace DDP.Abi
open DDP.Spec

/-- Zahl, Kommazahl, Byte, Wahrheitswert and Buchstabe travel by value -/
theorem primitives_by_value (t : Ty) (h : isPrimitive t = true) : passParam t false = .byValue (ctype t) := by
  simp [passParam, h]

/-- Text, lists, Kombinationen and Variable travel by pointer -/
theorem nonprimitives_by_pointer (t : Ty) (h : isPrimitive t = false) (r : Bool) : passParam t r = .byPointer (ctype t) := by
  simp [passParam, h]

/-- a Referenz parameter is always a pointer (to the caller's own storage), also for primitives -/
theorem referenz_is_pointer (t : Ty) : passParam t true = .byPointer (ctype t) := by
  simp [passParam]

/-- a non-primitive result comes back through a leading out-pointer and the C function returns void -/
theorem nonprimitive_result_out_pointer (params : List (Ty × Bool)) (ret : Ty) (h1 : ret ≠ .nichts) (h2 : isPrimitive ret = false) :
    (signature params ret).ret = "void" ∧ (signature params ret).params.head? = some (.byPointer (ctype ret)) ∧
      (signature params ret).params.length = params.length + 1 := by
  simp [signature, h1, h2]

theorem primitive_result_by_value (params : List (Ty × Bool)) (ret : Ty) (h : isPrimitive ret = true) :
    (signature params ret).ret = ctype ret ∧ (signature params ret).params.length = params.length := by
  have : ret ≠ .nichts := by rintro rfl; cases h
  simp [signature, h, this]

theorem no_result (params : List (Ty × Bool)) : (signature params .nichts).ret = "void" ∧ (signature params .nichts).params.length = params.length := by
  simp [signature]

/-- the parameters keep their order (after the out-pointer, if any) -/
theorem parameter_order (params : List (Ty × Bool)) (ret : Ty) (i : Nat) (p : Ty × Bool) (h : params[i]? = some p) :
    ∃ k, (signature params ret).params[i + k]? = some (passParam p.1 p.2) ∧ k ≤ 1 := by
  have hp : (params.map fun (t, r) => passParam t r)[i]? = some (passParam p.1 p.2) := by
    rw [List.getElem?_map, h]; rfl
  unfold signature
  split
  · exact ⟨0, hp, Nat.zero_le 1⟩
  · split
    · exact ⟨0, hp, Nat.zero_le 1⟩
    · exact ⟨1, hp, Nat.le_refl 1⟩

/-- the five primitive types are exactly the ones passed by value -/
theorem by_value_iff (t : Ty) : (∃ c, passParam t false = .byValue c) ↔ isPrimitive t = true := by
  unfold passParam
  cases h : isPrimitive t <;> simp

example : (signature [(.zahl, false), (.text, false), (.zahl, true)] .text).toC "f" = "void f(ddpstring *, ddpint, ddpstring *, ddpint *)" := by decide +kernel

section Layout
open DDP.Generated.Abi

/-! ## The published layout is the generated layout (over the facts regenerated from the source on every run)

The `go…` tables are read off the code generator (primitive IR types, `types.NewStruct` calls, field index constants,
`toIrParamType`), the `c…` tables off `lib/runtime/include/DDP/ddptypes.h`; `DDP/Impl/AbiLayout.lean` reads both in one
vocabulary.  Each theorem below compares the two sides by evaluation. -/

/-- the same primitives in the same order, each as wide in the generated code as in the header, and no width unknown -/
theorem prim_widths_agree :
    goPrims.map (fun (n, t) => (n, irWidth t)) = cPrims.map (fun (n, t) => (n, cWidth t)) ∧
    (goPrims.map fun (_, t) => irWidth t).all Option.isSome = true := by decide +kernel

/-- … and the same kind of scalar; an IR integer has no sign, so it matches a signed or an unsigned C integer -/
theorem prim_kinds_agree :
    (goPrims.zip cPrims).all (fun ((n, g), (m, c)) => n == m &&
      (irKind g == cKind c || (irKind g == "int" && (cKind c == "sint" || cKind c == "uint")))) = true := by decide +kernel

/-- a Byte is the only unsigned integer: the generated code must zero-extend it, never sign-extend -/
theorem byte_unsigned_in_header : (cPrims.lookup "ddpbyte").map cKind = some "uint" ∧ (cPrims.lookup "ddpint").map cKind = some "sint" := by decide +kernel

/-- `ddpstring` is {pointer, 64-bit capacity} on both sides, and the code generator's field indices name `str` and `cap` -/
theorem layout_string :
    goStructs.lookup "ddpstring" = cClasses "ddpstring" ∧
    (goFieldIndex.lookup "string_str_field_index").bind (cFieldNameAt "ddpstring") = some "str" ∧
    (goFieldIndex.lookup "string_cap_field_index").bind (cFieldNameAt "ddpstring") = some "cap" := by decide +kernel

/-- every published list struct is {pointer to the element type, length, capacity} — the struct `createListType` builds —
and the code generator's `list_*_field_index` constants select `arr`, `len`, `cap` in each of them -/
theorem layout_lists :
    publishedLists.all (fun (name, elem) =>
      cClasses name == goStructs.lookup "list" &&
      cListElem name == some elem &&
      (goFieldIndex.lookup "list_arr_field_index").bind (cFieldNameAt name) == some "arr" &&
      (goFieldIndex.lookup "list_len_field_index").bind (cFieldNameAt name) == some "len" &&
      (goFieldIndex.lookup "list_cap_field_index").bind (cFieldNameAt name) == some "cap") = true ∧
    goStructs.lookup "ddpgenericlist" = goStructs.lookup "list" := by decide +kernel

/-- no list struct of the header is missed by `publishedLists` -/
theorem lists_complete :
    (cStructs.map Prod.fst).filter (fun n => n != "ddpstring" && n != "ddpvtable" && n != "ddpany") = publishedLists.map Prod.fst := by decide +kernel

/-- `ddpany` is {vtable pointer, 16-byte buffer}; the buffer is what `DDP_SMALL_ANY_BUFF_SIZE` says -/
theorem layout_any :
    goStructs.lookup "ddpany" = cClasses "ddpany" ∧
    (goFieldIndex.lookup "any_vtable_ptr_index").bind (cFieldNameAt "ddpany") = some "vtable_ptr" ∧
    goFieldIndex.lookup "any_value_index" = some 1 ∧
    classWidth "bytes16" = some cSmallAnyBuffSize := by decide +kernel

/-- the vtable the generated code emits for a type is the header's `ddpvtable` -/
theorem layout_vtable : goStructs.lookup "vtable" = cClasses "ddpvtable" ∧
    cFieldNames "ddpvtable" = some ["type_size", "free_func", "deep_copy_func", "equal_func"] := by decide +kernel

/-- the sizes the header asserts (and the ones foreign code computes with `sizeof`) follow from the generated layout -/
theorem sizes :
    cSizeAsserts.all (fun (n, sz) => (goStructs.lookup n).bind structSize == some sz) = true ∧
    (goStructs.lookup "ddpstring").bind structSize = some 16 ∧
    (goStructs.lookup "list").bind structSize = some 24 ∧
    (goStructs.lookup "ddpany").bind structSize = some 24 := by decide +kernel

/-- `toIrParamType` (regenerated truth table) is `passParam` of the model -/
theorem passing_is_generated (t : Ty) (isRef : Bool) :
    goPassing isRef (isPrimitive t) = some (passParam t isRef).cls := by
  cases isRef <;> cases h : isPrimitive t <;> simp [passParam, h, Pass.cls, goPassing, goParamPassing]

/-- what a Referenz parameter is for the C side: the header's `…ref` typedef is a pointer to the value type itself -/
theorem refs_point_to_values :
    cRefs.all (fun (r, pointee) => r == pointee ++ "ref" || (r == "ddpgenericref" && pointee == "void")) = true := by decide +kernel

/-- every primitive, Text, Variable and every list of one of these has its `…ref` typedef -/
theorem ref_typedef_exists :
    [Ty.zahl, .komma, .byte, .wahr, .buchstabe, .text, .variable, .liste .zahl, .liste .komma, .liste .byte, .liste .wahr,
      .liste .buchstabe, .liste .text, .liste .variable].all (fun t => cRefs.lookup (ctype t ++ "ref") == some (ctype t)) = true := by decide +kernel

/-- growth of list capacity: the constants of the header (`DDP_GROW_CAPACITY`) -/
theorem growth_constants : cBaseCapacity = 8 ∧ cGrowthFactorTenths = 15 := by decide +kernel

/-- the formats foreign code prints primitives with -/
theorem formats : cFormats.lookup "DDP_INT_FMT" = some "%lld" ∧ cFormats.lookup "DDP_BYTE_FMT" = some "%hhu" ∧
    cFormats.lookup "DDP_FLOAT_FMT" = some "%.16g" := by decide +kernel

end Layout

end DDP.Abi
