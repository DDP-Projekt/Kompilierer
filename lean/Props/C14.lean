import DDP.Proofs.Types

/-!
# C14 — type equivalence is lawful; aliases are transparent, definitions opaque

Theorems over `DDP.Types` (L1 model of `src/ddptypes` and of the checker's four
positions), for all type terms of any depth.  The equivalence laws themselves
(`equal_refl`, `equal_symm`, `equal_trans`, `equal_iff`, `getUnderlying_idem`) are in
`DDP/Proofs/Types.lean`.
-/

namespace DDP.Types

/-! ### aliases are transparent — everywhere -/

/-- an alias is its target -/
theorem alias_transparent (t : Ty) : equal (.alias t) t = true := equal_refl t

/-- … and a congruence for alias-of -/
theorem equal_congr_alias (a b : Ty) : equal (.alias a) b = equal a b := rfl

/-- … also behind further aliases -/
theorem alias_chain (t : Ty) (n : Nat) : equal (Nat.repeat Ty.alias n t) t = true := by
  induction n with
  | zero => exact equal_refl t
  | succ n ih => exact ih

/-- … and inside list types: equivalence is a congruence for list-of -/
theorem equal_congr_list (a b : Ty) : equal (.list a) (.list b) = equal a b :=
  Bool.eq_iff_iff.2 (by simp [equal_iff, getUnderlying])

theorem alias_in_list (t : Ty) : equal (.list (.alias t)) (.list t) = true := equal_refl (.list t)

/-! ### definitions are opaque -/

/-- the types a definition is equivalent to are exactly the aliases of that very definition -/
theorem typedef_equal_iff (i : Nat) (t s : Ty) :
    equal (.typedef i t) s = true ↔ getUnderlying s = .typedef i t :=
  (equal_iff ..).trans eq_comm

/-- a definition is never equivalent to its base type … -/
theorem typedef_opaque (i : Nat) (t : Ty) : equal (.typedef i t) t = false := by
  refine Bool.eq_false_iff.2 fun h => ?_
  -- `getUnderlying t = typedef i t` is impossible: `getUnderlying` does not enlarge a term
  have := (typedef_equal_iff i t t).1 h ▸ sizeOf_getUnderlying_le t
  simp only [Ty.typedef.sizeOf_spec] at this
  omega

/-- … nor to another definition, whatever its base -/
theorem typedef_distinct (i j : Nat) (t s : Ty) (h : i ≠ j) : equal (.typedef i t) (.typedef j s) = false :=
  Bool.eq_false_iff.2 fun he => h (Ty.typedef.inj ((equal_iff ..).1 he)).1

/-- a definition is equivalent to no primitive, list, Kombination or Variable -/
theorem typedef_not_structural (i : Nat) (t s : Ty) (hs : ∀ j u, getUnderlying s ≠ .typedef j u) :
    equal (.typedef i t) s = false :=
  Bool.eq_false_iff.2 fun he => hs i t ((typedef_equal_iff i t s).1 he)

theorem typedef_not_numeric (i : Nat) (t : Ty) : isNumeric (.typedef i t) = false := rfl

/-! ### initialisation and assignment -/

/-- the two positions always agree -/
theorem initOk_eq_assignOk (target value : Ty) : initOk target value = assignOk target value := by
  simp only [initOk, assignOk, equal_symm value target]

/-- initialisation and assignment accept exactly: equivalent types, numeric for numeric, anything but `nichts` for Variable -/
theorem initOk_iff (target value : Ty) :
    initOk target value = true ↔
      equal value target = true ∨ (isNumeric target = true ∧ isNumeric value = true) ∨
      (equal target .variable = true ∧ equal value .void = false) := by
  simp only [initOk]
  generalize equal value target = a, isNumeric target = b, isNumeric value = c,
    equal target .variable = d, equal value .void = e
  revert a b c d e; decide

/-- a returned value is accepted exactly when it has the declared type, or the function returns a
Variable and the value is not 'nichts' -/
theorem returnOk_iff (ret value : Ty) :
    returnOk ret value = true ↔ equal ret value = true ∨ (equal ret .variable = true ∧ equal value .void = false) := by
  simp only [returnOk]
  generalize equal ret value = a, equal ret .variable = d, equal value .void = e
  revert a d e; decide

/-- what may be returned may be assigned (the return position is the stricter one: it has no
numeric conversion) -/
theorem returnOk_imp_assignOk (target value : Ty) (h : returnOk target value = true) : assignOk target value = true := by
  rw [← initOk_eq_assignOk, initOk_iff, equal_symm]
  exact ((returnOk_iff ..).1 h).imp_right .inr

/-- 'nichts' is accepted nowhere: not as initialiser, not in an assignment, not as returned value
of a function that returns something -/
theorem void_never_accepted (target : Ty) (ht : equal target .void = false) :
    initOk target .void = false ∧ assignOk target .void = false ∧ returnOk target .void = false := by
  simp [initOk, assignOk, returnOk, equal_symm .void, ht, equal_refl, isNumeric, getUnderlying]

/-- a function declared to return a definition returns only that very definition -/
theorem typedef_return_only_itself (i : Nat) (t s : Ty) :
    returnOk (.typedef i t) s = true ↔ equal (.typedef i t) s = true := by
  rw [returnOk_iff]
  simp [equal, getUnderlying]

/-- a definition converts only explicitly: it is accepted only where the very same
definition (or Variable) is required, and only the very same definition is accepted where
it is required -/
theorem typedef_init_only_itself (i : Nat) (t s : Ty) :
    initOk (.typedef i t) s = true ↔ equal s (.typedef i t) = true := by
  rw [initOk_iff]
  simp [typedef_not_numeric, equal, getUnderlying]

theorem typedef_value_only_into_itself_or_variable (i : Nat) (t s : Ty) :
    initOk s (.typedef i t) = true ↔ equal (.typedef i t) s = true ∨ equal s .variable = true := by
  rw [initOk_iff]
  simp [typedef_not_numeric, equal, getUnderlying]

/-- in particular neither direction between a definition and its base type is implicit -/
theorem typedef_converts_only_explicitly (i : Nat) (t : Ty) (hv : equal t .variable = false) :
    initOk (.typedef i t) t = false ∧ initOk t (.typedef i t) = false := by
  refine ⟨Bool.eq_false_iff.2 fun h => ?_, Bool.eq_false_iff.2 fun h => ?_⟩
  · rw [typedef_init_only_itself, equal_symm, typedef_opaque] at h; cases h
  · rw [typedef_value_only_into_itself_or_variable, typedef_opaque, hv] at h; simp at h

/-! ### explicit conversion of definitions -/

/-- converting *to* a definition from a type that is not itself a definition or Variable:
only from its own base type -/
theorem cast_to_typedef (i : Nat) (t lhs : Ty) (hl : castTypeDef lhs = none) (ha : isAny lhs = false) :
    castOk lhs (.typedef i t) = equal lhs t := by
  unfold castOk; rw [ha, hl]; rfl

/-- converting *from* a definition to a type that is not itself a definition or Variable:
only to its own base type -/
theorem cast_from_typedef (i : Nat) (t target : Ty) (ht : castTypeDef target = none) (ha : isAny target = false) :
    castOk (.typedef i t) target = equal target t := by
  unfold castOk; rw [ha, ht]; rfl

/-- between two definitions: only if one is (an alias of) the other's base type -/
theorem cast_between_typedefs (i j : Nat) (t s : Ty) :
    castOk (.typedef i t) (.typedef j s) = (equal t (.typedef j s) || equal s (.typedef i t)) := rfl

/-! ### non-vacuity -/

example : equal (.list (.alias (.alias (.prim .zahl)))) (.alias (.list (.prim .zahl))) = true ∧
    equal (.typedef 1 (.prim .zahl)) (.prim .zahl) = false ∧
    initOk (.prim .komma) (.alias (.prim .byte)) = true ∧
    initOk (.variable) (.typedef 1 (.prim .zahl)) = true ∧ initOk .variable .void = false ∧
    castOk (.prim .zahl) (.typedef 1 (.alias (.prim .zahl))) = true ∧
    castOk (.prim .komma) (.typedef 1 (.prim .zahl)) = false := by decide

end DDP.Types
