import DDP.Impl.Modules
import DDP.Proofs.Sorted

/-!
# C10 — modules expose exactly their public names and initialise once, in order

About `DDP.Modules` (`DDP/Impl/Modules.lean`): the initialisation walk, visibility of imported names, directory imports.
-/

namespace DDP.Modules

/-- `visitAll` is a fold of `visit` -/
theorem visitAll_inv (g : Graph) (fuel : Nat) {P : List Nat → Prop} : ∀ (l done : List Nat),
    (∀ i ∈ l, ∀ d, P d → P (visit g fuel i d)) → P done → P (visitAll g fuel l done)
  | [], _, _, h => by rwa [visitAll]
  | i :: r, done, hv, h => by
    rw [visitAll]
    exact visitAll_inv g fuel r _ (fun j hj => hv j (List.mem_cons_of_mem _ hj)) (hv i List.mem_cons_self _ h)

theorem visitAll_prefix (g : Graph) (fuel : Nat) (hv : ∀ i d, d <+: visit g fuel i d) (l done : List Nat) :
    done <+: visitAll g fuel l done :=
  visitAll_inv g fuel (P := (done <+: ·)) l done (fun i _ d h => h.trans (hv i d)) (List.prefix_refl _)

/-- what is done stays done, in the same order (the new modules are appended) -/
theorem visit_prefix (g : Graph) : (fuel m : Nat) → (done : List Nat) → done <+: visit g fuel m done
  | 0, _, done => by simp [visit]
  | fuel + 1, m, done => by
    unfold visit
    split
    · exact List.prefix_refl _
    · exact (visitAll_prefix g fuel (visit_prefix g fuel) _ _).trans (List.prefix_append _ _)

theorem visitAll_below (g : Graph) (hr : Ranked g) (fuel m : Nat) (done : List Nat)
    (hv : ∀ i d x, x ∈ visit g fuel i d → x ∈ d ∨ x ≤ i) : ∀ x ∈ visitAll g fuel (g m) done, x ∈ done ∨ x < m :=
  visitAll_inv g fuel (P := fun d => ∀ x ∈ d, x ∈ done ∨ x < m) (g m) done
    (fun i hi d hd x hx => (hv i d x hx).elim (hd x) fun h => .inr (Nat.lt_of_le_of_lt h (hr m i hi)))
    (fun _ hx => .inl hx)

theorem visit_bound (g : Graph) (hr : Ranked g) : (fuel m : Nat) → (done : List Nat) → ∀ x, x ∈ visit g fuel m done → x ∈ done ∨ x ≤ m
  | 0, _, done, x, hx => by simp [visit] at hx; exact Or.inl hx
  | fuel + 1, m, done, x, hx => by
    unfold visit at hx
    split at hx
    · exact Or.inl hx
    · rcases List.mem_append.mp hx with h | h
      · exact (visitAll_below g hr fuel m done (visit_bound g hr fuel) x h).imp_right Nat.le_of_lt
      · simp at h; exact Or.inr (Nat.le_of_eq h)

/-- **every module is initialised at most once** -/
theorem visit_nodup (g : Graph) (hr : Ranked g) : (fuel m : Nat) → (done : List Nat) → done.Nodup → (visit g fuel m done).Nodup
  | 0, _, done, h => by simpa [visit] using h
  | fuel + 1, m, done, h => by
    unfold visit
    split
    · exact h
    · next hm =>
      refine List.nodup_append.mpr ⟨visitAll_inv g fuel _ _ (fun i _ d => visit_nodup g hr fuel i d) h, by simp, ?_⟩
      intro a ha b hb
      rw [List.mem_singleton.mp hb]
      rintro rfl
      -- `a` is not among what its imports added: those are below `a`
      exact (visitAll_below g hr fuel a done (visit_bound g hr fuel) a ha).elim hm (Nat.lt_irrefl a)

theorem init_once (g : Graph) (hr : Ranked g) (fuel : Nat) (imports : List Nat) : (initSeq g fuel imports).Nodup :=
  visitAll_inv g fuel _ _ (fun i _ d => visit_nodup g hr fuel i d) List.nodup_nil

theorem visit_mem (g : Graph) (fuel m : Nat) (done : List Nat) : m ∈ visit g (fuel + 1) m done := by
  unfold visit
  split
  · assumption
  · simp

theorem visitAll_mem (g : Graph) (fuel : Nat) : (l done : List Nat) → ∀ i ∈ l, i ∈ visitAll g (fuel + 1) l done
  | [], _, i, hi => by simp at hi
  | j :: r, done, i, hi => by
      unfold visitAll
      rcases List.mem_cons.mp hi with h | h
      · subst h
        exact (visitAll_prefix g (fuel + 1) (visit_prefix g _) r _).subset (visit_mem g fuel i done)
      · exact visitAll_mem g fuel r _ i h

/-- every module the main module imports is initialised -/
theorem imported_initialised (g : Graph) (fuel : Nat) (imports : List Nat) (m : Nat) (h : m ∈ imports) :
    m ∈ initSeq g (fuel + 1) imports :=
  visitAll_mem g fuel imports [] m h

/-- **imports before the importer**: when module `m` is newly initialised, each module it imports has
been initialised before it (it stands earlier in the sequence) -/
theorem imports_first (g : Graph) (fuel m : Nat) (done : List Nat) (hm : m ∉ done) (i : Nat) (hi : i ∈ g m) :
    ∃ pre, visit g (fuel + 2) m done = pre ++ [m] ∧ i ∈ pre :=
  ⟨visitAll g (fuel + 1) (g m) done, by rw [visit, if_neg hm], visitAll_mem g fuel (g m) done i hi⟩

/-- what was initialised at an earlier import statement is not initialised again at a later one -/
theorem later_import_skips (g : Graph) (fuel m : Nat) (done : List Nat) (h : m ∈ done) : visit g fuel m done = done := by
  cases fuel with
  | zero => simp [visit]
  | succ f => simp [visit, h]

example : initSeq (fun m => if m = 3 then [1, 2] else if m = 2 then [1] else []) 10 [3, 2] = [1, 2, 3] := by simp [initSeq, visitAll, visit]

theorem mem_public {decls : List Decl} {n : String} :
    n ∈ (decls.filter (·.isPublic)).map (·.name) ↔ ∃ d ∈ decls, d.name = n ∧ d.isPublic = true := by
  simp only [List.mem_map, List.mem_filter]
  exact ⟨fun ⟨d, ⟨hd, hp⟩, hn⟩ => ⟨d, hd, hn, hp⟩, fun ⟨d, hd, hn, hp⟩ => ⟨d, ⟨hd, hp⟩, hn⟩⟩

theorem visible_listed_iff {decls : List Decl} {names vis : List String} : visible decls (some names) = some vis ↔
    (∀ n ∈ names, ∃ d ∈ decls, d.name = n ∧ d.isPublic = true) ∧ names = vis := by
  simp only [visible, Option.ite_none_right_eq_some, List.all_eq_true, List.contains_iff_mem, mem_public, Option.some.injEq]

theorem private_never_visible (decls : List Decl) (listed : Option (List String)) (vis : List String) (n : String)
    (h : visible decls listed = some vis) (hn : n ∈ vis) : ∃ d ∈ decls, d.name = n ∧ d.isPublic = true := by
  cases listed with
  | none => cases h; exact mem_public.mp hn
  | some names => obtain ⟨hall, rfl⟩ := visible_listed_iff.mp h; exact hall n hn

theorem import_all_is_all_public (decls : List Decl) (d : Decl) (hd : d ∈ decls) (hp : d.isPublic = true) :
    ∃ vis, visible decls none = some vis ∧ d.name ∈ vis :=
  ⟨_, rfl, mem_public.mpr ⟨d, hd, rfl, hp⟩⟩

theorem import_listed_is_exactly_listed (decls : List Decl) (names vis : List String)
    (h : visible decls (some names) = some vis) : vis = names :=
  (visible_listed_iff.mp h).2.symm

mutual
theorem walk_recursive_all : ∀ (es : List DirEntry), walkSorted true es = allModules es
  | [] => rfl
  | e :: r => by simp only [walkSorted, allModules, walkEntry_recursive_all e, walk_recursive_all r]
theorem walkEntry_recursive_all : ∀ (e : DirEntry), walkEntry true e = modulesOf e
  | .file _ _ => rfl
  | .dir _ es => by simp only [walkEntry, modulesOf, if_true, walk_recursive_all es]
end

theorem walk_plain_top : ∀ (es : List DirEntry), walkSorted false es = topModules es
  | [] => rfl
  | .file _ m :: r => by simp [walkSorted, walkEntry, topModules, walk_plain_top r]
  | .dir _ _ :: r => by simp [walkSorted, walkEntry, topModules, walk_plain_top r]

theorem insertEntry_eq (e : DirEntry) : ∀ l, insertEntry e l = insertBefore (fun f => e.name < f.name) e l
  | [] => rfl
  | f :: r => by simp only [insertEntry, insertBefore, insertEntry_eq e r, decide_eq_true_eq]

theorem walkSorted_eq_flatMap (b : Bool) : ∀ es, walkSorted b es = es.flatMap (walkEntry b)
  | [] => rfl
  | e :: r => by rw [walkSorted, walkSorted_eq_flatMap b r, List.flatMap_cons]

theorem walkSorted_insert (b : Bool) (e : DirEntry) (l : List DirEntry) :
    (walkSorted b (insertEntry e l)).Perm (walkEntry b e ++ walkSorted b l) := by
  rw [walkSorted_eq_flatMap, walkSorted_eq_flatMap, insertEntry_eq]
  exact (insertBefore_perm _ e l).flatMap_right _

mutual
theorem walkSorted_sortDeep (b : Bool) : ∀ (es : List DirEntry), (walkSorted b (sortDeep es)).Perm (walkSorted b es)
  | [] => by simp [sortDeep]
  | e :: r => by
    rw [sortDeep, walkSorted]
    exact (walkSorted_insert b _ _).trans ((walkEntry_sortEntryDeep b e).append (walkSorted_sortDeep b r))
theorem walkEntry_sortEntryDeep (b : Bool) : ∀ (e : DirEntry), (walkEntry b (sortEntryDeep e)).Perm (walkEntry b e)
  | .file _ _ => by simp [sortEntryDeep]
  | .dir _ es => by
    simp only [sortEntryDeep, walkEntry]
    split
    · exact walkSorted_sortDeep b es
    · exact .refl _
end

theorem modulesOf_sortEntryDeep : ∀ (e : DirEntry), (modulesOf (sortEntryDeep e)).Perm (modulesOf e) := fun e => by
  simpa only [walkEntry_recursive_all] using walkEntry_sortEntryDeep true e

/-- **A recursive directory import brings in every module below the directory exactly as often
as it is there**, whatever order the file system lists the entries in. -/
theorem dirImport_recursive_complete (es : List DirEntry) : (dirImport true es).Perm (allModules es) :=
  walk_recursive_all es ▸ walkSorted_sortDeep true es

/-- **A plain directory import brings in exactly the module files of the directory itself.** -/
theorem dirImport_plain_complete (es : List DirEntry) : (dirImport false es).Perm (topModules es) :=
  walk_plain_top es ▸ walkSorted_sortDeep false es

example : dirImport true [.file "m4.ddp" 4, .dir "tief" [.file "m9.ddp" 9, .file "m1.ddp" 1], .file "m2.ddp" 2] = [2, 4, 1, 9] := by decide +kernel
example : dirImport false [.file "m4.ddp" 4, .dir "tief" [.file "m9.ddp" 9, .file "m1.ddp" 1], .file "m2.ddp" 2] = [2, 4] := by decide +kernel

end DDP.Modules
