import DDP.Proofs.Literal
import DDP.Proofs.Scanner

/-!
# C19 — every literal denotes its written value

Theorems over the scanner model (literal delimiting, escape validation), the parser's
literal helpers (`DDP.Literal`, tables regenerated from the source) and the specification
`DDP.LiteralSpec` (what a literal denotes).
-/

namespace DDP.C19
open DDP.Generated DDP.LiteralSpec DDP.Scanner DDP.Literal

/-- The source writes the escape letters out three times (`scanEscape`, `parseString`,
`parseChar`).  Scanner acceptance = parser table, text literals: no escape passes the scanner
that the parser cannot map, none is mapped that the scanner refuses -/
theorem escape_tables_agree_string (d : Char) :
    (scannerEscapeLetters.contains d || (scannerEscapeQuote && d == '"')) =
      (lookup parseStringEscapes d).isSome := by
  rw [← isEscape_eq_generated, isEscape_iff_spec, lookup_string_eq_spec]

theorem escape_tables_agree_char (d : Char) :
    (scannerEscapeLetters.contains d || (scannerEscapeQuote && d == '\'')) =
      (lookup parseCharEscapes d).isSome := by
  rw [← isEscape_eq_generated, isEscape_iff_spec, lookup_char_eq_spec]

/-- every escape letter, every image and the backslash are single UTF-8 bytes — the fact
that makes `parseString`'s in-place splice with `i += w` land behind the image -/
theorem escape_images_ascii :
    (∀ e ∈ parseStringEscapes, e.1.utf8Size = 1 ∧ e.2.utf8Size = 1) ∧
    (∀ e ∈ parseCharEscapes, e.1.utf8Size = 1 ∧ e.2.utf8Size = 1) ∧ ('\\' : Char).utf8Size = 1 := by
  decide

theorem scanQuoted_accepts (q : Char) (s : St) (cs : List Char) :
    (scanQuoted q s cs).flag = true → (scanQuoted q s cs).diags = [] →
    ∃ content, (scanQuoted q s cs).consumed = content ++ [q] ∧ (unescape q content).isSome := by
  fun_induction scanQuoted q s cs with
  -- no closing quote (`flag` stays false) or an unknown escape (a diagnostic): the hypotheses fail
  | case1 | case5 | case6 => simp [Sub.cons, Sub.setBackslash, Sub.addDiag]
  | case2 => exact fun _ _ => ⟨[], rfl, by simp [unescape]⟩
  | case3 s cs _ ih =>
    intro hf hd; obtain ⟨content, hc, hu⟩ := ih hf hd
    exact ⟨'\n' :: content, congrArg ('\n' :: ·) hc, by simpa [unescape_cons_plain] using hu⟩
  | case4 s d ds hesc _ _ ih =>
    intro hf hd; obtain ⟨content, hc, hu⟩ := ih hf hd
    obtain ⟨img, hi⟩ := Option.isSome_iff_exists.mp (isEscape_iff_spec q d ▸ hesc)
    exact ⟨'\\' :: d :: content, congrArg ('\\' :: d :: ·) hc, by simpa [unescape_cons_escape hi] using hu⟩
  | case7 s c cs _ _ hb ih =>
    intro hf hd; obtain ⟨content, hc, hu⟩ := ih hf hd
    exact ⟨c :: content, congrArg (c :: ·) hc, by simpa [unescape_cons_plain hb] using hu⟩

/-- **Scanner and parser agree on text literals.**  Whenever the scanner delimits a text
literal without reporting an unknown escape, the parser's unescaping reports no error
either and yields exactly what the literal denotes. -/
theorem string_literal_consistent (s : St) (cs : List Char)
    (hf : (scanQuoted '"' s cs).flag = true) (hd : (scanQuoted '"' s cs).diags = []) :
    ∃ content, (scanQuoted '"' s cs).consumed = content ++ ['"'] ∧
      (parseStringImpl parseStringEscapes content).2 = 0 ∧
      unescape '"' content = some (parseStringImpl parseStringEscapes content).1 := by
  obtain ⟨content, hc, hu⟩ := scanQuoted_accepts '"' s cs hf hd
  obtain ⟨v, hv⟩ := Option.isSome_iff_exists.mp hu
  have h := parseStringImpl_of_unescape lookup_string_eq_spec hv
  exact ⟨content, hc, by rw [h], by rw [hv, h]⟩

/-- a literal the parser's unescaping complains about is never a literal of the
specification (it is not "silently altered": the diagnostic is the only outcome) -/
theorem bad_escape_reported (content : List Char)
    (h : (parseStringImpl parseStringEscapes content).2 ≠ 0) : unescape '"' content = none :=
  (parseStringImpl_spec parseStringEscapes '"' lookup_string_eq_spec content).trans (if_neg h)

/-- the canonical spelling of a character: itself if it is plain (then the scanner and
`unescape` pass over it), otherwise a backslash and the escape letter whose image it is -/
theorem escapeChar_cases (q : Char) (hqq : escapeImage q q = some q) (x : Char) :
    (escapeChar q x = [x] ∧ x ≠ '\\' ∧ x ≠ q ∧ x ≠ '\n') ∨
    ∃ l, escapeChar q x = ['\\', l] ∧ escapeImage q l = some x := by
  unfold escapeChar
  by_cases h1 : x = Char.ofNat 7; · exact .inr ⟨'a', by simp [h1], by rw [h1]; rfl⟩
  by_cases h2 : x = Char.ofNat 8; · exact .inr ⟨'b', by simp [h2], by rw [h2]; rfl⟩
  by_cases h3 : x = '\n'; · exact .inr ⟨'n', by simp [h3], by rw [h3]; rfl⟩
  by_cases h4 : x = '\r'; · exact .inr ⟨'r', by simp [h4], by rw [h4]; rfl⟩
  by_cases h5 : x = '\t'; · exact .inr ⟨'t', by simp [h5], by rw [h5]; rfl⟩
  by_cases h6 : x = '\\'; · exact .inr ⟨'\\', by simp [h6], by rw [h6]; simp [escapeImage]⟩
  by_cases h7 : x = q; · subst h7; exact .inr ⟨x, by simp [*], hqq⟩
  exact .inl ⟨by simp [*], h6, h7, h3⟩

theorem escape_cons (q x : Char) (xs : List Char) : escape q (x :: xs) = escapeChar q x ++ escape q xs :=
  rfl

theorem unescape_escape (q : Char) (hqq : escapeImage q q = some q) :
    ∀ xs : List Char, unescape q (escape q xs) = some xs
  | [] => by simp [escape, unescape]
  | x :: xs => by
    rw [escape_cons]
    rcases escapeChar_cases q hqq x with ⟨e, hb, -, -⟩ | ⟨l, e, hl⟩ <;> rw [e]
    · rw [List.singleton_append, unescape_cons_plain hb, unescape_escape q hqq xs]; rfl
    · rw [List.cons_append, List.singleton_append, unescape_cons_escape hl, unescape_escape q hqq xs]; rfl

theorem scan_escape_accepted (q : Char) (hq : q ≠ '\\') (hqq : escapeImage q q = some q) :
    ∀ (xs : List Char) (s : St) (rest : List Char),
      (scanQuoted q s (escape q xs ++ q :: rest)).flag = true ∧
      (scanQuoted q s (escape q xs ++ q :: rest)).diags = [] ∧
      (scanQuoted q s (escape q xs ++ q :: rest)).consumed = escape q xs ++ [q] ∧
      (scanQuoted q s (escape q xs ++ q :: rest)).rest = rest
  | [], s, rest => by
    simp only [escape, List.map_nil, List.flatten_nil, List.nil_append]
    unfold scanQuoted; simp
  | x :: xs, s, rest => by
    rw [escape_cons, List.append_assoc]
    rcases escapeChar_cases q hqq x with ⟨e, hb, hxq, hnl⟩ | ⟨l, e, hl⟩ <;> rw [e]
    · have ih := scan_escape_accepted q hq hqq xs (s.adv x) rest
      rw [List.singleton_append, scanQuoted_plain hxq hnl hb]
      simpa [Sub.cons] using ih
    · have ih := scan_escape_accepted q hq hqq xs ((s.adv '\\').adv l) rest
      rw [List.cons_append, List.singleton_append, scanQuoted_escape hq (by rw [isEscape_iff_spec, hl]; rfl)]
      simpa [Sub.cons2, Sub.setBackslash] using ih

/-- **Round trip.**  Every text — any code points, including quotes, backslashes, line
breaks, control and multi-byte characters — can be written as a literal (its canonical
spelling), the scanner takes that spelling as exactly one literal, and the parser's
unescaping returns the text. -/
theorem text_literal_roundtrip (xs : List Char) (s : St) (rest : List Char) :
    (scanQuoted '"' s (escape '"' xs ++ '"' :: rest)).flag = true ∧
    (scanQuoted '"' s (escape '"' xs ++ '"' :: rest)).diags = [] ∧
    (scanQuoted '"' s (escape '"' xs ++ '"' :: rest)).consumed = escape '"' xs ++ ['"'] ∧
    (scanQuoted '"' s (escape '"' xs ++ '"' :: rest)).rest = rest ∧
    parseStringImpl parseStringEscapes (escape '"' xs) = (xs, 0) := by
  obtain ⟨h1, h2, h3, h4⟩ := scan_escape_accepted '"' (by decide) (by decide) xs s rest
  exact ⟨h1, h2, h3, h4, parseStringImpl_of_unescape lookup_string_eq_spec
    (unescape_escape '"' (by decide) xs)⟩

/-- the parser's value of a character literal; of two characters `parseChar` does not look at
the first (the scanner has reported four runes without a backslash) -/
theorem parseChar_spec (content : List Char) :
    parseCharImpl parseCharEscapes content =
      match content with
      | [c] => .ok c
      | [_, l] => (match escapeImage '\'' l with | some img => .ok img | none => .badEscape l)
      | _ => .invalid := by
  cases content with
  | nil => rfl
  | cons a t =>
    cases t with
    | nil => rfl
    | cons b t2 =>
      cases t2 with
      | nil => simp only [parseCharImpl, lookup_char_eq_spec]; cases escapeImage '\'' b <;> rfl
      | cons _ _ => rfl

/-- every character is writable: `'x'` for plain ones, the escape sequence for the rest -/
theorem char_literal_roundtrip (c : Char) :
    parseCharImpl parseCharEscapes (escapeChar '\'' c) = .ok c := by
  rw [parseChar_spec]
  rcases escapeChar_cases '\'' (by decide) c with ⟨e, -⟩ | ⟨l, e, hl⟩ <;> rw [e]
  simp only [hl]

theorem natOfDigits_append (a : List Char) (d : Char) :
    natOfDigits (a ++ [d]) = 10 * natOfDigits a + (d.toNat - 48) := by
  simp [natOfDigits, List.foldl_append]

/-- decimal digits of a number, most significant first -/
def digitsOf (n : Nat) : List Char :=
  if n < 10 then [Char.ofNat (48 + n)] else digitsOf (n / 10) ++ [Char.ofNat (48 + n % 10)]
termination_by n
decreasing_by omega

theorem digit_spec : ∀ k < 10, isDigit (Char.ofNat (48 + k)) = true ∧ (Char.ofNat (48 + k)).toNat - 48 = k := by
  decide

theorem digitsOf_isDigit (n : Nat) : ∀ d ∈ digitsOf n, isDigit d = true := by
  fun_induction digitsOf n with
  | case1 n h => simpa using (digit_spec n h).1
  | case2 n h ih =>
    intro d hd
    rcases List.mem_append.mp hd with hd | hd
    · exact ih d hd
    · rw [List.mem_singleton.mp hd]; exact (digit_spec _ (Nat.mod_lt _ (by decide))).1

theorem natOfDigits_digitsOf (n : Nat) : natOfDigits (digitsOf n) = n := by
  fun_induction digitsOf n with
  | case1 n h => simp [natOfDigits, (digit_spec n h).2]
  | case2 n h ih => rw [natOfDigits_append, ih, (digit_spec _ (Nat.mod_lt _ (by decide))).2]; omega

/-- an integer literal is accepted exactly when its decimal value fits 63 bits, and then
denotes that value; every value `0 … 2^63-1` is writable -/
theorem int_literal (ds : List Char) (v : Nat) :
    parseIntImpl ds = some v ↔ natOfDigits ds < 2 ^ 63 ∧ v = natOfDigits ds := by
  unfold parseIntImpl
  simp only
  split
  · next h => simp only [Option.some.injEq]; exact ⟨fun e => ⟨h, e.symm⟩, fun e => e.2.symm⟩
  · next h => simp only [reduceCtorEq, false_iff, not_and]; intro h'; omega

/-- **Integer round trip**: the decimal spelling of `n` denotes `n` -/
theorem int_literal_roundtrip (n : Nat) (h : n < 2 ^ 63) : parseIntImpl (digitsOf n) = some n := by
  rw [int_literal, natOfDigits_digitsOf]; exact ⟨h, rfl⟩

/-- recorded: the most negative Zahl is not writable as `-` followed by a literal, because
its digits alone are out of range (the code rejects it with a diagnostic) -/
theorem min_zahl_not_writable : parseIntImpl "9223372036854775808".toList = none ∧
    parseIntImpl "9223372036854775807".toList = some (2 ^ 63 - 1) := by decide +kernel

/-- non-vacuity: the hypotheses of `string_literal_consistent` hold of a literal with escapes,
a line break and a multi-byte character -/
example : (scanQuoted '"' (initSt ⟨1, 1⟩ 0) "a\\n\\\"ü\nb\" rest".toList).flag = true ∧
    (scanQuoted '"' (initSt ⟨1, 1⟩ 0) "a\\n\\\"ü\nb\" rest".toList).diags = [] ∧
    parseStringImpl parseStringEscapes "a\\n\\\"ü\nb".toList = ("a\n\"ü\nb".toList, 0) := by decide +kernel

/-!
### decimal-comma literals — partial

`strconv.ParseFloat` is not modelled as a theorem.  The check evaluates, for every tested
literal, the decidable specification `DDP.LiteralSpec.isNearestDouble` (the double is a nearest
neighbour of the exact rational, ties to even) on the bits the implementation produced
(`./check C19`, evidence key `float_literals`).  That is validation per input, not a proof.
-/

end DDP.C19
