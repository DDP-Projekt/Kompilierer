import DDP.Spec.Duden
import DDP.Proofs.Sorted
import DDP.Proofs.Utf8

/-!
# C17 — Duden list, text, number and sorting functions meet their specification

`DDP.Duden` states the documented meaning as sequence operations; the real functions are compared
with it on generated arguments (`vlib/props/C17.py`).  The theorems are the laws that make these
definitions *the* mathematical operations: lengths, inverses, involutions, and for sorting
"ordered permutation".
-/

namespace DDP.Duden

/-! ### lists

The insert and delete functions, for lists and for texts, are `if position in range then some
result else none`: `Option.ite_some_none_eq_some` says what `… = some l'` means for each. -/

theorem length_insert {α} (l r : List α) (k : Nat) : (l.take k ++ r ++ l.drop k).length = l.length + r.length := by
  rw [List.length_append, List.length_append, Nat.add_right_comm, ← List.length_append, List.take_append_drop]

theorem length_delete {α} (l : List α) {i : Nat} (h : 1 ≤ i ∧ i ≤ l.length) :
    (l.take (i - 1) ++ l.drop i).length + 1 = l.length := by
  rw [List.length_append, List.length_take_of_le (Nat.le_trans (Nat.sub_le ..) h.2), List.length_drop]; omega

theorem anfuegen_length (l : List Int) (e : Int) : (anfuegen l e).length = l.length + 1 := List.length_append
theorem anfuegen_last (l : List Int) (e : Int) : (anfuegen l e).getLast? = some e := List.getLast?_concat
theorem voranstellen_head (l : List Int) (e : Int) : (voranstellen l e).head? = some e := rfl

/-- inserting at position i and deleting position i again gives the list back -/
theorem einfuegen_loesche (l l' : List Int) (i : Nat) (e : Int) (h : einfuegen l i e = some l') : loesche l' i = some l := by
  obtain ⟨hi, rfl⟩ := Option.ite_some_none_eq_some.mp h
  have hA : (l.take (i - 1)).length = i - 1 := List.length_take_of_le (Nat.sub_le_of_le_add hi.2)
  refine Option.ite_some_none_eq_some.mpr ⟨⟨hi.1, by rw [length_insert]; exact hi.2⟩, ?_⟩
  rw [List.drop_left' (by rw [List.length_append, hA]; exact Nat.sub_add_cancel hi.1), List.append_assoc, List.take_left' hA, List.take_append_drop]

theorem einfuegen_at (l l' : List Int) (i : Nat) (e : Int) (h : einfuegen l i e = some l') : l'[i - 1]? = some e := by
  obtain ⟨hi, rfl⟩ := Option.ite_some_none_eq_some.mp h
  have hA : (l.take (i - 1)).length = i - 1 := List.length_take_of_le (Nat.sub_le_of_le_add hi.2)
  rw [List.append_assoc, List.getElem?_append_right (Nat.le_of_eq hA), hA, Nat.sub_self]; rfl

/-- the position behind the last element is an insert position: inserting there appends (also for the empty list) -/
theorem einfuegenBereich_end (l r : List Int) : einfuegenBereich l (l.length + 1) r = some (l ++ r) := by
  rw [einfuegenBereich, if_pos ⟨Nat.le_add_left .., Nat.le_refl _⟩, Nat.add_sub_cancel, List.take_length, List.drop_length,
    List.append_nil]

/-- (`einfuegen l i e` unfolds to `einfuegenBereich l i [e]`) -/
theorem einfuegen_end (l : List Int) (e : Int) : einfuegen l (l.length + 1) e = some (anfuegen l e) :=
  einfuegenBereich_end l [e]

theorem einfuegen_defined_iff (l : List Int) (i : Nat) (e : Int) : (einfuegen l i e).isSome ↔ (1 ≤ i ∧ i ≤ l.length + 1) :=
  Option.isSome_ite

theorem loesche_length (l l' : List Int) (i : Nat) (h : loesche l i = some l') : l'.length + 1 = l.length := by
  obtain ⟨hi, rfl⟩ := Option.ite_some_none_eq_some.mp h
  exact length_delete l hi

theorem gespiegelt_involution (l : List Int) : gespiegelt (gespiegelt l) = l := List.reverse_reverse l
theorem gespiegelt_length (l : List Int) : (gespiegelt l).length = l.length := List.length_reverse

theorem summe_eq_sum (l : List Int) : summe l = l.sum := List.sum_eq_foldl.symm

/-- the last step of the fold -/
theorem summe_anfuegen (l : List Int) (e : Int) : summe (anfuegen l e) = summe l + e := List.foldl_append

theorem summe_verkettet (a b : List Int) : summe (a ++ b) = summe a + summe b := by
  simp only [summe_eq_sum, List.sum_append]

/-- `indexVon` and `indexVonBuchstabe` are this function at `Int` and at `Nat` -/
theorem idxOf?_eq_neg_one_iff {α} [BEq α] [LawfulBEq α] (l : List α) (e : α) :
    (match l.idxOf? e with | some i => ((i : Nat) : Int) + 1 | none => -1) = -1 ↔ e ∉ l := by
  rw [← List.idxOf?_eq_none_iff]
  cases l.idxOf? e with
  | none => exact iff_of_true rfl rfl
  | some i => exact iff_of_false (by omega : ¬ (i : Int) + 1 = -1) (Option.some_ne_none i)

theorem indexVon_eq_neg_one_iff (l : List Int) (e : Int) : indexVon l e = -1 ↔ e ∉ l := idxOf?_eq_neg_one_iff l e

theorem indexVon_found (l : List Int) (e : Int) (i : Int) (h : indexVon l e = i) (hi : i ≠ -1) : e ∈ l :=
  Decidable.by_contra fun hn => hi (h ▸ (indexVon_eq_neg_one_iff l e).mpr hn)

theorem indexVon_none (l : List Int) (e : Int) (h : e ∉ l) : indexVon l e = -1 := (indexVon_eq_neg_one_iff l e).mpr h

/-! ### sorting: an ordered permutation -/

theorem einsortieren_eq (x : Int) : ∀ l, einsortieren x l = insertBefore (fun y => decide (x ≤ y)) x l
  | [] => rfl
  | y :: r => by simp only [einsortieren, insertBefore, einsortieren_eq x r, decide_eq_true_eq]

theorem einsortieren_perm (x : Int) (l : List Int) : (einsortieren x l).Perm (x :: l) :=
  einsortieren_eq x l ▸ insertBefore_perm _ x l

theorem sortiert_perm (l : List Int) : (sortiert l).Perm l := by
  induction l with
  | nil => exact .refl _
  | cons x r ih => exact (einsortieren_perm x _).trans (ih.cons x)

/-- the elements `x` passes are below it; the one it stops at, and so all that follow, are not -/
theorem einsortieren_sorted (x : Int) (l : List Int) (h : l.Pairwise (· ≤ ·)) : (einsortieren x l).Pairwise (· ≤ ·) := by
  rw [einsortieren_eq]
  exact pairwise_insertBefore h (fun y _ hs => Int.le_of_lt (Int.not_le.mp (of_decide_eq_false hs)))
    (fun y _ hs => ⟨of_decide_eq_true hs, fun z => Int.le_trans (of_decide_eq_true hs)⟩)

theorem sortiert_sorted (l : List Int) : (sortiert l).Pairwise (· ≤ ·) := by
  induction l with
  | nil => exact .nil
  | cons x r ih => exact einsortieren_sorted x _ ih

theorem sortiert_length (l : List Int) : (sortiert l).length = l.length := (sortiert_perm l).length_eq

/-! ### texts -/

theorem trimAnfang_head (t : Text) (c : Nat) : (trimAnfang t c).head? ≠ some c := fun h => by
  have := List.head?_dropWhile_not (· == c) t
  rw [show (t.dropWhile (· == c)).head? = some c from h] at this
  exact absurd (beq_self_eq_true c) (ne_true_of_eq_false this)

/-- … so trimming again finds nothing to remove -/
theorem trimAnfang_idempotent (t : Text) (c : Nat) : trimAnfang (trimAnfang t c) c = trimAnfang t c :=
  List.dropWhile_beq_eq_self_of_head?_ne (trimAnfang_head t c)

theorem polsterLinks_length (t : Text) (c n : Nat) : (polsterLinks t c n).length = max n t.length := by
  rw [polsterLinks, List.length_append, List.length_replicate, Nat.sub_add_eq_max]

theorem polsterLinks_noop (t : Text) (c n : Nat) (h : n ≤ t.length) : polsterLinks t c n = t := by
  rw [polsterLinks, Nat.sub_eq_zero_of_le h]; rfl

theorem polsterRechts_prefix (t : Text) (c n : Nat) : t <+: polsterRechts t c n := List.prefix_append _ _

/-- a proper prefix gives ±1, a differing letter a difference ≠ 0 -/
theorem vergleiche_eq_zero_iff (a b : Text) : vergleiche a b = 0 ↔ a = b := by
  fun_induction vergleiche a b <;> simp_all <;> omega

theorem vergleiche_refl (t : Text) : vergleiche t t = 0 := (vergleiche_eq_zero_iff t t).mpr rfl

theorem vergleiche_eq (a b : Text) (h : vergleiche a b = 0) (hl : a.length = b.length) : a = b :=
  (vergleiche_eq_zero_iff a b).mp h

theorem foldl_join (c : Nat) (a : Text) (l : List Text) :
    l.foldl (fun acc y => acc ++ [c] ++ y) a = a ++ l.flatMap (c :: ·) := by
  induction l generalizing a with
  | nil => exact (List.append_nil a).symm
  | cons y ys ih => rw [List.foldl_cons, ih, List.append_assoc, List.append_assoc]; rfl

theorem verbinden_eq (l : List Text) (c : Nat) : verbinden l c = (l.flatMap (c :: ·)).tail := by
  cases l with
  | nil => rfl
  | cons x r => exact foldl_join c x r

/-- with a separator in front of every part the split text is there again, behind a separator -/
theorem spalteAux_flatMap (c : Nat) (t cur : Text) :
    (spalteAux c t cur).flatMap (c :: ·) = c :: (cur.reverse ++ t) := by
  fun_induction spalteAux c t cur with
  | case1 cur => simp
  | case2 x r cur h ih => rw [List.flatMap_cons, ih, eq_of_beq h]; rfl
  | case3 x r cur h ih => rw [ih, List.reverse_cons, List.append_assoc]; rfl

/-- join after split gives the text back (for a non-empty text) -/
theorem verbinden_spalte (t : Text) (c : Nat) (h : t ≠ []) : verbinden (spalte t c) c = t := by
  rw [spalte, if_neg (mt List.isEmpty_iff.mp h), verbinden_eq, spalteAux_flatMap]; rfl

example : sortiert [3, 1, 2, 1] = [1, 1, 2, 3] := by decide
example : spalte [97, 44, 98, 44, 44, 99] 44 = [[97], [98], [], [99]] := by decide
example : einfuegen [1, 2, 3] 2 9 = some [1, 9, 2, 3] := by decide

/-! ### numbers

`max2`, `min2` and their `Rat` twins `maxK`, `minK` are the same `if`; what is said about them
needs only that the order is total. -/

theorem ite_rel_spec {α} {r : α → α → Prop} [DecidableRel r] (total : ∀ a b, r a b ∨ r b a) {a b m : α}
    (hm : m = if r a b then a else b) : r m a ∧ r m b ∧ (m = a ∨ m = b) := by
  subst hm; split
  · next h => exact ⟨(total a a).elim id id, h, .inl rfl⟩
  · next h => exact ⟨(total a b).resolve_left h, (total b b).elim id id, .inr rfl⟩

theorem max2_ge (a b : Int) : a ≤ max2 a b ∧ b ≤ max2 a b ∧ (max2 a b = a ∨ max2 a b = b) :=
  ite_rel_spec (r := (· ≥ ·)) (fun a b => Int.le_total b a) rfl

theorem min2_le (a b : Int) : min2 a b ≤ a ∧ min2 a b ≤ b ∧ (min2 a b = a ∨ min2 a b = b) :=
  ite_rel_spec (r := (· ≤ ·)) Int.le_total rfl

theorem max3_ge (a b c : Int) : a ≤ max3 a b c ∧ b ≤ max3 a b c ∧ c ≤ max3 a b c := by
  have h1 := max2_ge a b
  have h2 := max2_ge (max2 a b) c
  exact ⟨Int.le_trans h1.1 h2.1, Int.le_trans h1.2.1 h2.1, h2.2.1⟩

theorem clamp_range (w lo hi : Int) (h : lo ≤ hi) : lo ≤ clamp w lo hi ∧ clamp w lo hi ≤ hi := by
  unfold clamp; omega

theorem clamp_inside (w lo hi : Int) (h1 : lo ≤ w) (h2 : w ≤ hi) : clamp w lo hi = w := by
  unfold clamp; omega

theorem sign_spec (a : Int) : (a < 0 → sign a = -1) ∧ (a > 0 → sign a = 1) ∧ (a = 0 → sign a = 0) := by
  unfold sign; omega

theorem ggT_divides (a b : Nat) : ggT a b ∣ a ∧ ggT a b ∣ b := ⟨Nat.gcd_dvd_left a b, Nat.gcd_dvd_right a b⟩

theorem ggT_greatest (a b d : Nat) (ha : d ∣ a) (hb : d ∣ b) : d ∣ ggT a b := Nat.dvd_gcd ha hb

/-- with the factors multiplied onto an accumulator the induction needs no lemma about folds; the
product is right for any fuel, since the last step answers `[n]` -/
theorem primAux_prod (fuel n d a : Nat) (hn : 1 ≤ n) : (primAux fuel n d).foldl (· * ·) a = a * n := by
  fun_induction primAux fuel n d generalizing a with
  | case1 | case4 => rfl
  | case2 n _ h | case3 _ n _ h =>
    obtain rfl : n = 1 := by omega
    exact (Nat.mul_one a).symm
  | case5 fuel n d _ _ h ih =>
    have hm : d * (n / d) = n := Nat.mul_div_cancel' (Nat.dvd_of_mod_eq_zero (eq_of_beq h))
    have hq : 1 ≤ n / d := Nat.pos_of_ne_zero fun h0 => by rw [h0] at hm; omega
    rw [List.foldl_cons, ih _ hq, Nat.mul_assoc, hm]
  | case6 _ _ _ _ _ _ ih => exact ih a hn

theorem primfaktoren_prod (z : Nat) (h : 1 ≤ z) : (primfaktoren z).foldl (· * ·) 1 = z := by
  rw [primfaktoren, primAux_prod _ _ _ _ h, Nat.one_mul]

example : primfaktoren 360 = [2, 2, 2, 3, 3, 5] := by decide
example : kgV 4 6 = 12 ∧ ggT 12 18 = 6 := by decide

/-! ### more text functions -/

theorem loescheT_length (t t' : Text) (i : Nat) (h : loescheT t i = some t') : t'.length + 1 = t.length := by
  obtain ⟨hi, rfl⟩ := Option.ite_some_none_eq_some.mp h
  exact length_delete t hi

theorem einfuegenT_length (t t' e : Text) (i : Nat) (h : einfuegenT t i e = some t') : t'.length = t.length + e.length := by
  obtain ⟨_, rfl⟩ := Option.ite_some_none_eq_some.mp h
  exact length_insert t e _

theorem einfuegenT_first (t t' e : Text) (h : einfuegenT t 1 e = some t') : t' = e ++ t :=
  (Option.ite_some_none_eq_some.mp h).2.symm

theorem loescheBereichT_all (t : Text) (h : t ≠ []) : loescheBereichT t 1 t.length = some [] := by
  rw [loescheBereichT, if_pos ⟨Nat.le_refl 1, List.length_pos_iff.mpr h, Nat.le_refl _⟩, List.drop_length]; rfl

example : finde [97, 97, 97] [97, 97] = [1] := by decide
example : finde [97, 98, 97, 98] [97, 98] = [1, 3] := by decide
example : spalteText [120, 97, 97, 98] [97, 98] = [[120, 97], []] := by decide

/-! ### lists -/

theorem einfuegenBereich_length (l l' r : List Int) (i : Nat) (h : einfuegenBereich l i r = some l') :
    l'.length = l.length + r.length := by
  obtain ⟨_, rfl⟩ := Option.ite_some_none_eq_some.mp h
  exact length_insert l r _

theorem einfuegenBereich_single (l : List Int) (i : Nat) (e : Int) : einfuegenBereich l i [e] = einfuegen l i e := rfl

theorem einfuegenBereich_nil (l l' : List Int) (i : Nat) (h : einfuegenBereich l i [] = some l') : l' = l := by
  obtain ⟨_, rfl⟩ := Option.ite_some_none_eq_some.mp h
  rw [List.append_nil, List.take_append_drop]

theorem voranstellenListe_single (l : List Int) (e : Int) : voranstellenListe l [e] = voranstellen l e := rfl

theorem voranstellenListe_length (l o : List Int) : (voranstellenListe l o).length = l.length + o.length :=
  List.length_append.trans (Nat.add_comm ..)

theorem leere_leer (l : List Int) : (leere l).isEmpty = true := rfl

theorem absteigend_length (a b : Int) (h : b ≤ a) : ((absteigend a b).length : Int) = a - b + 1 := by
  rw [absteigend, List.length_map, List.length_range, Int.toNat_of_nonneg (by omega)]

theorem absteigend_mem (a b x : Int) : x ∈ absteigend a b ↔ b ≤ x ∧ x ≤ a := by
  simp only [absteigend, List.mem_map, List.mem_range, Int.lt_toNat]
  constructor
  · rintro ⟨k, hk, rfl⟩; omega
  · rintro ⟨h1, h2⟩
    obtain ⟨k, rfl⟩ := Int.le.dest h2
    exact ⟨k, by omega, Int.add_sub_cancel x k⟩

theorem aufsteigend_mem (a b x : Int) : x ∈ aufsteigend a b ↔ a ≤ x ∧ x ≤ b := by
  simp only [aufsteigend, List.mem_map, List.mem_range, Int.lt_toNat]
  constructor
  · rintro ⟨k, hk, rfl⟩; omega
  · rintro ⟨h1, h2⟩
    obtain ⟨k, rfl⟩ := Int.le.dest h1
    exact ⟨k, by omega, rfl⟩

theorem absteigend_sorted (a b : Int) : (absteigend a b).Pairwise (· ≥ ·) := by
  rw [absteigend, List.pairwise_map]
  exact List.pairwise_lt_range.imp fun h => by omega

theorem verketteTexte_append (a b : List (List Nat)) : verketteTexte (a ++ b) = verketteTexte a ++ verketteTexte b :=
  List.flatten_append

theorem length_of_zipWith_eq_some {α β γ} {f : α → β → γ} {a : List α} {b : List β} {r : List γ}
    (h : (if a.length = b.length then some (List.zipWith f a b) else none) = some r) : r.length = a.length := by
  obtain ⟨hl, rfl⟩ := Option.ite_some_none_eq_some.mp h
  rw [List.length_zipWith, ← hl, Nat.min_self]

theorem elementweiseVerketten_length (a b r : List (List Nat)) (h : elementweiseVerketten a b = some r) : r.length = a.length :=
  length_of_zipWith_eq_some h

theorem elementweise_length (f : Int → Int → Int) (a b r : List Int) (h : elementweise f a b = some r) : r.length = a.length :=
  length_of_zipWith_eq_some h

theorem summeK_anfuegen (l : List Rat) (x : Rat) : summeK (l ++ [x]) = summeK l + x := List.foldl_append

theorem tausche_zurueck (a b : Int) : tausche (tausche a b).1 (tausche a b).2 = (a, b) := rfl

example : absteigend 3 (-1) = [3, 2, 1, 0, -1] := by decide
example : einfuegenBereich [1, 2, 3] 3 [7, 8] = some [1, 2, 7, 8, 3] := by decide

/-! ### texts -/

theorem entferneVorne_length (t : Text) (n : Int) : (entferneVorne t n).length = t.length - n.toNat := List.length_drop

/-- a count below 0 counts as 0 -/
theorem entferneVorne_neg (t : Text) (n : Int) (h : n ≤ 0) : entferneVorne t n = t := by
  rw [entferneVorne, Int.toNat_of_nonpos h]; rfl

theorem entferneVorne_alles (t : Text) (n : Int) (h : (t.length : Int) ≤ n) : entferneVorne t n = [] :=
  List.drop_of_length_le (by omega)

theorem entferneHinten_length (t : Text) (n : Int) : (entferneHinten t n).length = t.length - n.toNat :=
  List.length_take_of_le (Nat.sub_le ..)

theorem entferneHinten_prefix (t : Text) (n : Int) : entferneHinten t n <+: t := List.take_prefix _ _

theorem entferneHinten_neg (t : Text) (n : Int) (h : n ≤ 0) : entferneHinten t n = t := by
  rw [entferneHinten, Int.toNat_of_nonpos h]; exact List.take_length

/-- what is removed in front and what stays make up the text -/
theorem entferneVorne_rest (t : Text) (n : Int) : t.take n.toNat ++ entferneVorne t n = t := List.take_append_drop _ _

theorem fuelleText_length (t : Text) (c : Nat) : (fuelleText t c).length = t.length := List.length_map _

theorem fuelleText_all (t : Text) (c x : Nat) (h : x ∈ fuelleText t c) : x = c := by
  obtain ⟨_, _, rfl⟩ := List.mem_map.mp h; rfl

/-- the letters as texts, put together again, are the text -/
theorem verkette_buchstabenTexte (t : Text) : verketteTexte (buchstabenTexte t) = t := List.flatMap_singleton' t

theorem buchstabenTexte_length (t : Text) : (buchstabenTexte t).length = t.length := List.length_map _

theorem indexVonBuchstabe_eq_neg_one_iff (t : Text) (c : Nat) : indexVonBuchstabe t c = -1 ↔ c ∉ t := idxOf?_eq_neg_one_iff t c

theorem indexVonBuchstabe_none (t : Text) (c : Nat) (h : c ∉ t) : indexVonBuchstabe t c = -1 :=
  (indexVonBuchstabe_eq_neg_one_iff t c).mpr h

theorem indexVonBuchstabe_found (t : Text) (c : Nat) (i : Int) (h : indexVonBuchstabe t c = i) (hi : i ≠ -1) : c ∈ t :=
  Decidable.by_contra fun hn => hi (h ▸ (indexVonBuchstabe_eq_neg_one_iff t c).mpr hn)

theorem beginntMitBuchstabe_leer (c : Nat) : beginntMitBuchstabe [] c = false := rfl
theorem endetMitBuchstabe_anfuegen (t : Text) (c : Nat) : endetMitBuchstabe (textAnfuegen t [c]) c = true :=
  beq_iff_eq.mpr List.getLast?_concat
theorem beginntMitBuchstabe_voranstellen (t : Text) (c : Nat) : beginntMitBuchstabe (textVoranstellen t [c]) c = true :=
  beq_self_eq_true (some c)

theorem levenshtein_nil_left (b : Text) : levenshtein [] b = b.length := by
  unfold levenshtein; rfl

theorem levenshtein_nil_right (a : Text) : levenshtein a [] = a.length := by
  cases a <;> (unfold levenshtein; rfl)

theorem levenshtein_self (a : Text) : levenshtein a a = 0 := by
  induction a with
  | nil => exact levenshtein_nil_left []
  | cons x r ih => unfold levenshtein; simp [ih]

theorem spalteMengeAux_nonempty (m : List Nat) (t cur : Text) : ∀ p ∈ spalteMengeAux m t cur, p ≠ [] := by
  fun_induction spalteMengeAux m t cur with
  | case1 => simp
  | case2 cur h => simpa using h
  | case3 _ _ _ _ _ ih | case5 _ _ _ _ ih => exact ih
  | case4 _ _ cur _ h ih => exact List.forall_mem_cons.mpr ⟨by simpa using h, ih⟩

theorem spalteMengeAux_flatten (m : List Nat) (t cur : Text) :
    (spalteMengeAux m t cur).flatten = cur.reverse ++ t.filter (fun x => !m.contains x) := by
  fun_induction spalteMengeAux m t cur <;> simp_all

theorem spalteMenge_flatten (t : Text) (m : List Nat) : (spalteMenge t m).flatten = t.filter (fun x => !m.contains x) :=
  spalteMengeAux_flatten m t []

theorem spalteMenge_nonempty (t : Text) (m : List Nat) : ∀ p ∈ spalteMenge t m, p ≠ [] := spalteMengeAux_nonempty m t []

example : worte [68, 105, 101, 13, 10, 87, 32, 32, 33] = [[68, 105, 101], [87], [33]] := by decide
example : textIstZahl [45, 49, 50] = true ∧ textIstZahl [45] = false ∧ textIstZahl [49, 97] = false := by decide
example : verbindenZahl [1, -234, 0] 45 = [49, 45, 45, 50, 51, 52, 45, 48] := by decide
example : anzahlNichtUeberlappend [120, 97, 98, 97, 98] [97, 98] = 2 := by decide

/-! UTF-8: decoding the bytes of a text gives the text back.  `utf8` is `Utf8.encode` written out once more, so
what `DDP.Proofs.Utf8` says of `encode` holds of it as it stands. -/

theorem utf8_length (c : Nat) : 1 ≤ (utf8 c).length ∧ (utf8 c).length ≤ 4 := by
  rw [show (utf8 c).length = _ from Utf8.length_encode c]
  split <;> (try split) <;> (try split) <;> decide

theorem vonBytes_shape {c : Nat} {l : List Nat} (h : Utf8.Shape c l) (r : List Nat) :
    vonBytes (l ++ r) = (vonBytes r).map (c :: ·) := by
  rcases h with h | ⟨ha, _, rfl⟩ | ⟨ha, _, _, rfl⟩ | ⟨_, _, _, _, rfl⟩ <;>
    rw [vonBytes.eq_def] <;> dsimp only [List.cons_append, List.nil_append]
  -- the lead byte selects the branch; there `192 + a - 0xC0 = a` and the like leave the digits of `c`
  · rw [if_pos h]
  · rw [if_neg (by omega), if_neg (by omega), if_pos (by omega)]; simp only [Nat.add_sub_cancel_left]
  · rw [if_neg (by omega), if_neg (by omega), if_neg (by omega), if_pos (by omega)]; simp only [Nat.add_sub_cancel_left]
  · rw [if_neg (by omega), if_neg (by omega), if_neg (by omega), if_neg (by omega)]; simp only [Nat.add_sub_cancel_left]

theorem vonBytes_utf8 (c : Nat) (hc : c < 0x110000) (r : List Nat) :
    vonBytes (utf8 c ++ r) = (vonBytes r).map (c :: ·) := vonBytes_shape (Utf8.encode_shape hc) r

theorem vonBytes_bytes (t : Text) (h : ∀ c ∈ t, c < 0x110000) : vonBytes (bytes t) = some t := by
  induction t with
  | nil => rfl
  | cons c r ih =>
    have ⟨hc, hr⟩ := List.forall_mem_cons.mp h
    show vonBytes (utf8 c ++ bytes r) = _
    rw [vonBytes_utf8 c hc, ih hr]; rfl

example : bytes [97, 228, 8364, 128512] = [97, 195, 164, 226, 130, 172, 240, 159, 152, 128] := by decide

/-! ### characters

The letter classes as ranges and single code points; the case mappings move the Latin range by 32
and are evaluated at the three umlauts. -/

theorem istKleinZ_iff (c : Nat) : istKleinZ c = true ↔ (97 ≤ c ∧ c ≤ 122) ∨ c = 228 ∨ c = 246 ∨ c = 252 ∨ c = 223 := by
  simp only [istKleinZ, Bool.or_eq_true, Bool.and_eq_true, decide_eq_true_eq, beq_iff_eq, or_assoc]

theorem istGrossZ_iff (c : Nat) : istGrossZ c = true ↔ (65 ≤ c ∧ c ≤ 90) ∨ c = 196 ∨ c = 214 ∨ c = 220 := by
  simp only [istGrossZ, Bool.or_eq_true, Bool.and_eq_true, decide_eq_true_eq, beq_iff_eq, or_assoc]

theorem grossBuchstabe_latein {c : Nat} (h : 97 ≤ c ∧ c ≤ 122) : grossBuchstabe c = c - 32 := if_pos h
theorem kleinBuchstabe_latein {c : Nat} (h : 65 ≤ c ∧ c ≤ 90) : kleinBuchstabe c = c + 32 := if_pos h

/-- the German letters are the capital and the small ones … -/
theorem istDeutsch_gross_oder_klein (c : Nat) : istDeutschZ c = (istGrossZ c || istKleinZ c) := by
  unfold istDeutschZ istLateinischZ istGrossZ istKleinZ
  ac_rfl

/-- … and no letter is both -/
theorem gross_nicht_klein (c : Nat) (h : istGrossZ c = true) : istKleinZ c = false := by
  rcases (istGrossZ_iff c).mp h with h | rfl | rfl | rfl
  · exact Bool.eq_false_iff.mpr fun hk => by have := (istKleinZ_iff c).mp hk; omega
  all_goals rfl

theorem grossBuchstabe_istGross (c : Nat) (h : istKleinZ c = true) (hs : c ≠ 223) : istGrossZ (grossBuchstabe c) = true := by
  rcases (istKleinZ_iff c).mp h with h | rfl | rfl | rfl | rfl
  · rw [grossBuchstabe_latein h, istGrossZ_iff]; omega
  · rfl
  · rfl
  · rfl
  · exact absurd rfl hs

/-- small → capital → small gives the letter back (ß has no capital letter) -/
theorem klein_gross (c : Nat) (h : istKleinZ c = true) : kleinBuchstabe (grossBuchstabe c) = c := by
  rcases (istKleinZ_iff c).mp h with h | rfl | rfl | rfl | rfl
  · rw [grossBuchstabe_latein h, kleinBuchstabe_latein (by omega)]; omega
  all_goals rfl

theorem gross_klein (c : Nat) (h : istGrossZ c = true) : grossBuchstabe (kleinBuchstabe c) = c := by
  rcases (istGrossZ_iff c).mp h with h | rfl | rfl | rfl
  · rw [kleinBuchstabe_latein h, grossBuchstabe_latein (by omega)]; omega
  all_goals rfl

theorem grossBuchstabe_of_not_klein {c : Nat} (h : istKleinZ c = false) : grossBuchstabe c = c := by
  have := mt (istKleinZ_iff c).mpr (Bool.not_eq_true _ ▸ h)
  simp only [not_or] at this
  simp only [grossBuchstabe, this, if_false]

theorem kleinBuchstabe_of_not_gross {c : Nat} (h : istGrossZ c = false) : kleinBuchstabe c = c := by
  have := mt (istGrossZ_iff c).mpr (Bool.not_eq_true _ ▸ h)
  simp only [not_or] at this
  simp only [kleinBuchstabe, this, if_false]

/-- letters that are not German letters stay what they are -/
theorem grossBuchstabe_fremd (c : Nat) (h : istDeutschZ c = false) : grossBuchstabe c = c ∧ kleinBuchstabe c = c := by
  rw [istDeutsch_gross_oder_klein, Bool.or_eq_false_iff] at h
  exact ⟨grossBuchstabe_of_not_klein h.2, kleinBuchstabe_of_not_gross h.1⟩

theorem asciiGroesser_kleiner (a b : Nat) : asciiGroesser a b = asciiKleiner b a := rfl

theorem hexWert_hexZiffer (v : Nat) (h : v < 16) : hexWert (hexZiffer v) = some v := by
  unfold hexZiffer
  split
  · rw [hexWert, if_pos (by omega), Nat.add_sub_cancel_left]
  · rw [hexWert, if_neg (by omega), if_pos (by omega), Nat.add_sub_cancel_left]

/-! ### numbers -/

/-- the documented value of the smallest Zahl -/
theorem minZahl_maxZahl : minZahl = -maxZahl := rfl

theorem floorK_spec (x : Rat) : floorK x ≤ x ∧ x < floorK x + 1 := by
  refine ⟨Rat.floor_le x, ?_⟩
  rw [floorK, ← Rat.intCast_one, ← Rat.intCast_add]
  exact Rat.lt_floor_add_one x

theorem floorK_ganz (n : Int) : floorK (n : Rat) = n := congrArg Int.cast (Rat.floor_intCast n)

theorem maxK_ge (a b : Rat) : a ≤ maxK a b ∧ b ≤ maxK a b ∧ (maxK a b = a ∨ maxK a b = b) :=
  ite_rel_spec (r := (· ≥ ·)) (fun _ _ => Rat.le_total) rfl

theorem minK_le (a b : Rat) : minK a b ≤ a ∧ minK a b ≤ b ∧ (minK a b = a ∨ minK a b = b) :=
  ite_rel_spec (r := (· ≤ ·)) (fun _ _ => Rat.le_total) rfl

theorem clampK_range (w lo hi : Rat) (h : lo ≤ hi) : lo ≤ clampK w lo hi ∧ clampK w lo hi ≤ hi := by
  unfold clampK; split
  · exact ⟨h, Rat.le_refl⟩
  · next h1 =>
    split
    · exact ⟨Rat.le_refl, h⟩
    · next h2 => exact ⟨Rat.not_lt.mp h2, Rat.not_lt.mp h1⟩

theorem fakultaet_pos (n : Nat) : 0 < fakultaet n := by
  induction n with
  | zero => exact Nat.one_pos
  | succ n ih => exact Nat.mul_pos (Nat.succ_pos n) ih

theorem fakultaet_teilbar (n k : Nat) (h1 : 1 ≤ k) (h2 : k ≤ n) : k ∣ fakultaet n := by
  induction n with
  | zero => omega
  | succ n ih =>
    rcases Nat.lt_or_eq_of_le h2 with h | rfl
    · exact Nat.dvd_trans (ih (by omega)) (Nat.dvd_mul_left _ _)
    · exact Nat.dvd_mul_right _ _

example : fakultaet 20 = 2432902008176640000 := by decide

theorem teiler_mem (z d : Nat) (hz : 1 ≤ z) : d ∈ teiler z ↔ d ∣ z := by
  simp only [teiler, List.mem_filter, List.mem_range, Bool.and_eq_true, decide_eq_true_eq, beq_iff_eq,
    ← Nat.dvd_iff_mod_eq_zero]
  exact ⟨fun h => h.2.2, fun h => ⟨Nat.lt_succ_of_le (Nat.le_of_dvd hz h), Nat.pos_of_dvd_of_pos h hz, h⟩⟩

theorem ggTZ_teilt (a b : Int) : ((ggTZ a b : Nat) : Int) ∣ a ∧ ((ggTZ a b : Nat) : Int) ∣ b :=
  ⟨Int.gcd_dvd_left a b, Int.gcd_dvd_right a b⟩

theorem geradeZahl_iff (x : Int) : geradeZahl x = true ↔ ∃ k, x = 2 * k :=
  beq_iff_eq.trans Int.dvd_iff_emod_eq_zero.symm

example : hexZuZahl [55, 102, 70, 70] = some 32767 ∧ zahlZuHex (-255) = [45, 70, 70] ∧ zahlZuHex 0 = [48] := by decide
example : teiler 12 = [1, 2, 3, 4, 6, 12] := by decide

/-! ### statistics -/

theorem hoechsteZ_spec (l : List Int) (m : Int) (h : hoechsteZ l = some m) : m ∈ l ∧ ∀ x ∈ l, x ≤ m :=
  List.max?_eq_some_iff.mp h

theorem kleinsteZ_spec (l : List Int) (m : Int) (h : kleinsteZ l = some m) : m ∈ l ∧ ∀ x ∈ l, m ≤ x :=
  List.min?_eq_some_iff.mp h

theorem absoluteHaeufigkeit_le (l : List Rat) (x : Rat) : absoluteHaeufigkeit l x ≤ l.length := List.count_le_length

theorem absoluteHaeufigkeit_pos (l : List Rat) (x : Rat) : 0 < absoluteHaeufigkeit l x ↔ x ∈ l := List.count_pos_iff

theorem modalwert_mem (l : List Rat) (x : Rat) (h : x ∈ modalwert l) : x ∈ l :=
  (List.mem_filter.mp (List.mem_eraseDups.mp h)).1

theorem median_eins (x : Rat) : median [x] = some x := by simp [median]

theorem mittelwert_leer : mittelwert [] = none := rfl

example : median [1, 5 / 2, 5 / 2, 4] = some (5 / 2) := by decide +kernel
example : quantil [1, 5 / 2, 5 / 2, 4] (1 / 4) = some (7 / 4) := by decide +kernel
example : varianz [1, 2, 3] = some 1 ∧ standardabweichung [0, 0, 4, 4, 2] = some 2 := by decide +kernel
example : mindestens 3 [1, 5 / 2, 3, 4] = some (1 / 2) ∧ hoechstens 1 [1, 5 / 2, 3, 4] = some (1 / 4) := by decide +kernel
example : modalwert [1, 5 / 2, 5 / 2, 4, 1] = [1, 5 / 2] := by decide +kernel
example : kovarianz [1, 2, 3] [2, 4, 6] = some 2 := by decide +kernel

/-! ### TextIterator -/

/-- handled and remaining letters always make up the text, in number … -/
theorem iter_counts (t : List Int) (k : Nat) (h : k ≤ t.length) :
    (iterView t k).behandelt + (iterView t k).verbleibend = t.length := Nat.add_sub_cancel' h

/-- … and in content -/
theorem iter_bisher_rest (t : List Int) (k : Nat) : (iterView t k).bisher ++ (iterView t k).rest = t := List.take_append_drop k t

/-- the remaining count is the length of the remaining text (letters, not bytes) -/
theorem iter_verbleibend_rest (t : List Int) (k : Nat) : (iterView t k).verbleibend = (iterView t k).rest.length :=
  List.length_drop.symm

/-- the walk visits every letter once, in order -/
theorem iterWalk_letters (t : List Int) : (iterWalk t).map (·.buchstabe) = t := by
  refine List.ext_getElem (by simp [iterWalk]) fun i _ h => ?_
  simp [iterWalk, iterView, List.headD_eq_head?_getD, List.head?_drop, h]

example : (iterWalk [97, 8364, 128512]).map (fun v => (v.index, v.verbleibend, v.rest)) =
    [(1, 3, [97, 8364, 128512]), (2, 2, [8364, 128512]), (3, 1, [128512])] := by decide

end DDP.Duden
