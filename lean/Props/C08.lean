import DDP.Spec.Eval
import DDP.Proofs.ConstParam

/-!
# C08 — values are copied; only Referenz parameters alias

In the L2 evaluator a *holder* (variable, parameter, loop variable) is a binding to a location of
the store plus a path into the value kept there.  Every initialisation, assignment, value argument,
element/field store, iteration variable and returned value is a *copy into a fresh or own location*;
only a Referenz parameter is bound to the caller's location and path.
-/

namespace DDP.Spec

theorem write_eq_some {st st' : State} {b : Binding} {v : Val} (h : st.write b v = some st') :
    ∃ old nv, st.store[b.loc]? = some old ∧ setPath old b.path v = some nv ∧
      st' = { st with store := st.store.set! b.loc nv } := by
  unfold State.write at h
  split at h
  · rename_i old hold
    obtain ⟨nv, hs, rfl⟩ := Option.map_eq_some_iff.1 h
    exact ⟨old, nv, hold, hs, rfl⟩
  · cases h

/-- writing through one holder never changes what a holder of another location observes -/
theorem write_other_loc (st st' : State) (b b' : Binding) (v : Val)
    (h : st.write b v = some st') (hne : b.loc ≠ b'.loc) : st'.read b' = st.read b' := by
  obtain ⟨_, nv, _, _, rfl⟩ := write_eq_some h
  simp [State.read, Array.getElem?_setIfInBounds_ne hne]

/-- a fresh location is new: it is the old size of the store -/
theorem alloc_loc (st : State) (v : Val) : (st.alloc v).2 = st.store.size := rfl

theorem alloc_read_new (st : State) (v : Val) (t : Ty) : (st.alloc v).1.read ⟨(st.alloc v).2, [], t⟩ = some v := by
  simp [State.alloc, State.read, getPath]

theorem alloc_read_old (st : State) (v : Val) (b : Binding) (h : b.loc < st.store.size) :
    (st.alloc v).1.read b = st.read b := by
  simp [State.alloc, State.read, Array.getElem?_push, Nat.ne_of_lt h]

theorem getPath_nil (v : Val) : getPath v [] = some v := by cases v <;> rfl
theorem setPath_nil (v x : Val) : setPath v [] x = some x := by cases v <;> rfl

theorem getPath_setPath {p : List PathElem} {v x v' : Val} (h : setPath v p x = some v') : getPath v' p = some x := by
  fun_induction setPath v p x generalizing v' with
  | case1 _ x => cases h; exact getPath_nil x
  | case2 t vs i r x y hy ih =>
    obtain ⟨y', hy', rfl⟩ := Option.map_eq_some_iff.mp h
    rw [getPath, List.getElem?_set_self (List.getElem?_eq_some_iff.mp hy).1]
    exact ih hy'
  | case4 n fs f r x k y hk ih =>
    obtain ⟨y', hy', rfl⟩ := Option.map_eq_some_iff.mp h
    obtain rfl : k = f := by simpa using List.find?_some hk
    -- the fields keep their names, so the same field is found again
    simpa [getPath, List.find?_map, Function.comp_def, apply_ite Prod.fst, hk] using ih hy'
  | case6 cps i c hc => cases h; simp at hc; simp [getPath, hc.1, Int.toNat_of_nonneg hc.2]
  | case3 | case5 | case7 | case8 => cases h

theorem write_read (st st' : State) (b : Binding) (v : Val) (h : st.write b v = some st') : st'.read b = some v := by
  obtain ⟨old, nv, hold, hs, rfl⟩ := write_eq_some h
  have hlt : b.loc < st.store.size := (Array.getElem?_eq_some_iff.mp hold).1
  simp [State.read, hlt, getPath_setPath hs]

/-- a holder that owns its whole location reads back exactly what was written -/
theorem write_read_root (st st' : State) (b : Binding) (v : Val) (hp : b.path = [])
    (h : st.write b v = some st') : st'.read b = some v := write_read st st' b v h

/-- storing into a list element changes that element only -/
theorem set_index_other (t : Ty) (vs : List Val) (i j : Nat) (x : Val) (v' : Val) (hij : i ≠ j)
    (h : setPath (.list t vs) [.idx i] x = some v') : getPath v' [.idx j] = getPath (.list t vs) [.idx j] := by
  simp only [setPath] at h
  split at h
  · cases h
    simp [getPath, List.getElem?_set_ne hij]
  · cases h

theorem set_index_same (t : Ty) (vs : List Val) (i : Nat) (x : Val) (v' : Val)
    (h : setPath (.list t vs) [.idx i] x = some v') : getPath v' [.idx i] = some x := getPath_setPath h

/-- a declaration copies the initial value into a fresh location -/
theorem decl_fresh (ctx : Ctx) (fuel : Nat) (env : Env) (st st1 : State) (t : Ty) (n : String) (e : Expr) (v v' : Val)
    (he : evalExpr ctx fuel env st e = (st1, .ok v)) (hc : coerceTo t v = .ok v') :
    execStmt ctx (fuel + 1) env st (.decl t n e)
      = (env.bind n ⟨st1.store.size, [], t⟩, (st1.alloc v').1, .normal) := by
  simp only [execStmt, he, hc, State.alloc]

/-- so the new holder and every older holder are independent: writing one leaves the other -/
theorem decl_independent (st1 st2 : State) (v' w : Val) (t : Ty) (old : Binding)
    (hold : old.loc < st1.store.size)
    (hw : (st1.alloc v').1.write ⟨st1.store.size, [], t⟩ w = some st2) :
    st2.read old = st1.read old := by
  rw [write_other_loc _ _ _ _ _ hw (Nat.ne_of_gt hold), alloc_read_old _ _ _ hold]

/-- a value parameter is bound to a fresh copy of the argument -/
theorem value_param_fresh (ctx : Ctx) (fuel : Nat) (env : Env) (st st1 : State) (fd : Func) (pn : String) (ae : Expr)
    (rest : List (String × Expr)) (sc : Scope) (p : Param) (v : Val)
    (hp : fd.params.find? (·.name == pn) = some p) (hr : p.isRef = false)
    (he : evalExpr ctx fuel env st ae = (st1, .ok v)) :
    bindArgs ctx (fuel + 1) env st fd ((pn, ae) :: rest) sc
      = bindArgs ctx fuel env (st1.alloc v).1 fd rest ((pn, ⟨st1.store.size, [], p.ty⟩) :: sc) := by
  simp [bindArgs, hp, hr, he, State.alloc]

/-- a Referenz parameter is bound to the caller's own location and path: it aliases -/
theorem ref_param_alias (ctx : Ctx) (fuel : Nat) (env : Env) (st st1 : State) (fd : Func) (pn : String) (ae : Expr)
    (rest : List (String × Expr)) (sc : Scope) (p : Param) (b : Binding)
    (hp : fd.params.find? (·.name == pn) = some p) (hr : p.isRef = true)
    (he : evalLVal ctx fuel env st ae = (st1, .ok b)) :
    bindArgs ctx (fuel + 1) env st fd ((pn, ae) :: rest) sc
      = bindArgs ctx fuel env st1 fd rest ((pn, b) :: sc) := by
  simp [bindArgs, hp, hr, he]

/-- a variable as Referenz argument evaluates to its own holder and changes nothing, so the same variable passed twice gives
two parameters with one location (`ref_param_alias`) -/
theorem ref_twice_same (ctx : Ctx) (fuel : Nat) (env : Env) (st : State) (x : String) (b : Binding)
    (h : env.lookup x = some b) :
    evalLVal ctx (fuel + 1) env st (.var x) = (st, .ok b) := by
  simp only [evalLVal, h]

/-- the for-each variable is a copy of the element: a fresh location per round, and the next
round continues with the remaining elements of the value taken on entry -/
theorem foreach_copies (ctx : Ctx) (fuel : Nat) (env : Env) (st st' : State) (t : Ty) (n : String)
    (body : List Stmt) (v : Val) (rest : List Val) (k : Nat)
    (hb : execBlock ctx fuel (env.push.bind n ⟨st.store.size, [], t⟩).push (st.alloc v).1 body = (st', .normal)) :
    execForEach ctx (fuel + 1) env st t n none body (v :: rest) k
      = execForEach ctx fuel env st' t n none body rest (k + 1) := by
  simp only [State.alloc] at hb
  simp only [execForEach, State.alloc, hb]

/-- non-vacuity: copy, mutate the copy, the original is unchanged; mutate through a Referenz, the caller sees it -/
example : (run { structs := [],
                 funcs := [{ name := "f", params := [⟨"p", .liste .zahl, true⟩, ⟨"q", .liste .zahl, false⟩], ret := .nichts,
                             body := [.assign (.bin .index (.var "p") (.intLit 1)) (.intLit 9),
                                      .assign (.bin .index (.var "q") (.intLit 1)) (.intLit 8)] }],
                 main := [.decl (.liste .zahl) "a" (.listLit .zahl [.intLit 1]),
                          .decl (.liste .zahl) "b" (.var "a"),
                          .assign (.bin .index (.var "b") (.intLit 1)) (.intLit 2),
                          .print (.bin .index (.var "a") (.intLit 1)) true,
                          .expr (.call "f" [("p", .var "a"), ("q", .var "b")]),
                          .print (.bin .index (.var "a") (.intLit 1)) true,
                          .print (.bin .index (.var "b") (.intLit 1)) true] } 12).stdout
          = "1\n9\n2\n" := by decide +kernel

end DDP.Spec

/-! ## The `-O 2` protocol: a value parameter flagged constant is handed over without a copy

`DDP.ConstParam` models the annotator that computes the flags (tied to the real one by `vlib/constcorr.py`: flags of generated
modules, function by function). Copy semantics survives the elision exactly if a flagged parameter is never changed by the
callee; that is `sound`. -/

namespace DDP.ConstParam

/-- **No flagged parameter is ever changed**: if the pass leaves parameter `q` of `f` constant, running `f` does not change
`q`'s storage — not by assignment to a part of it, not through a Referenz parameter of any callee (the function itself called
recursively and functions looked at later included), not through a further hand-over without a copy. -/
theorem constant_parameters_are_not_changed (p : Prog) (f q : Nat) (h : (analyse p)[f]?.bind (·[q]?) = some true) :
    ¬ Mut p (analyse p) f q := fun hm => sound p f q hm h

/-- **What a flag means, without the pass**: a parameter keeps its flag exactly when it belongs to a function defined in DDP and no
statement of the body names it as (part of) an assignment target or hands it to a parameter that is not known to be constant.
A flag is cleared only for a reason one can point at; `constant_parameters_are_not_changed` says the reasons suffice. -/
theorem constant_flag_characterised (known : Nat → Option Flags) (self : Nat) (fn : Fn) (q : Nat) :
    (analyseFn known self fn)[q]? = some true ↔
      (q < fn.nparams ∧ fn.extern = false ∧ ∀ s ∈ fn.body, marks known self q s = false) :=
  flag_iff known self fn q

/-- the pass is flow-insensitive: the flags do not depend on the order of the statements of a body (nor, therefore, on which
branch a statement stands in) -/
theorem constant_flags_ignore_statement_order (known : Nat → Option Flags) (self : Nat) (fn fn' : Fn)
    (hn : fn.nparams = fn'.nparams) (he : fn.extern = fn'.extern) (hp : fn.body.Perm fn'.body) (q : Nat) :
    ((analyseFn known self fn)[q]? = some true) ↔ ((analyseFn known self fn')[q]? = some true) :=
  analyseFn_perm known self fn fn' hn he hp q

/-- the function of seed observation C08f: `h r v n` with `r` a Referenz parameter changed *after* the recursive call
`h v v 1` in the text -/
def rekursion : Prog :=
  [{ nparams := 3, isRef := [true, false, false], extern := false,
     body := [.call 0 [.root 1, .root 1, .none], .assign (.root 0)] }]

/-- **The rule before repair 570a0c8 was not sound**, and this is the witness: reading the function's own flags at the recursive
call (`r` still "constant" there) leaves `v` flagged although `v` is changed through `r` -/
theorem old_rule_unsound : (analyseOld rekursion)[0]?.bind (·[1]?) = some true ∧ Mut rekursion (analyseOld rekursion) 0 1 :=
  ⟨rfl, .viaRef (g := 0) (j := 0) (args := [.root 1, .root 1, .none]) rfl rfl (.head _) rfl (.inl rfl) rfl rfl
    (.assign rfl rfl (.tail _ (.head _)))⟩

/-- the repaired rule clears the flag on the same function (and `sound` says it does so on every function) -/
example : analyse rekursion = [[false, false, true]] := by decide

/-- non-vacuity: a module where flags survive — `liest` only reads its value parameter, `ruft` hands its own value parameter on
to it, `schreibt` changes its parameter, `ruft2` hands its parameter to `schreibt` -/
example : analyse [{ nparams := 1, isRef := [false], extern := false, body := [] },
                   { nparams := 1, isRef := [false], extern := false, body := [.call 0 [.root 0]] },
                   { nparams := 1, isRef := [false], extern := false, body := [.assign (.root 0)] },
                   { nparams := 2, isRef := [false, true], extern := false, body := [.call 2 [.root 0], .call 9 [.root 1]] },
                   { nparams := 1, isRef := [true], extern := true, body := [] }]
    = [[true], [true], [false], [false, false], [false]] := by decide

end DDP.ConstParam
