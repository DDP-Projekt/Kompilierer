import DDP.Proofs.TextRT

/-!
# C12 — a Text is a sequence of Unicode code points

`DDP.Utf8` / `DDP.TextRT` are L1 models of `utf8.c`, `operators.c`, `ddptypes.c` (byte
level, with `cap`) and of the compiler's text iteration.  `repr cps` is the canonical
representation of a code-point sequence (written `TextRT.repr` where Lean would otherwise take it for `Repr.repr`).
The theorems about texts quantify over *all* sequences of scalar values other than NUL (a NUL-terminated text
cannot hold U+0000).
-/

namespace DDP.C12
open DDP.Utf8 DDP.TextRT

/-! ### per scalar value (every 1-, 2-, 3- and 4-byte code point, no enumeration) -/

/-- `mbrtoc32 ∘ c32rtomb = id` on non-NUL scalar values, whatever follows in memory -/
theorem decode_encode (c : Nat) (hs : isScalar c = true) (h0 : c ≠ 0) (rest : List Nat) :
    decode1 (encode c ++ rest) = c := (encode_shape_of_isScalar hs).decode1_eq h0 rest

theorem num_bytes_encode (c : Nat) (hs : isScalar c = true) (h0 : c ≠ 0) (rest : List Nat) :
    numBytes (encode c ++ rest) = (encode c).length := (encode_shape_of_isScalar hs).numBytes_eq h0 rest

theorem indicated_num_bytes_first (c : Nat) (hs : isScalar c = true) (rest : List Nat) :
    indicatedNumBytes ((encode c ++ rest).headD 0) = (encode c).length := (encode_shape_of_isScalar hs).indicated rest

/-- surrogates and values above U+10FFFF have no size (`-1`), scalar values have their encoding's -/
theorem num_bytes_char (c : Nat) :
    numBytesChar c = if isScalar c then some (encode c).length else none := by
  rw [numBytesChar, length_encode]
  by_cases hs : isScalar c = true
  · -- the surrogate test fails and the last one passes; what is left are the tests of `encode`
    have := isScalar_iff.mp hs
    rw [if_pos hs]
    simp only [Bool.and_eq_true, decide_eq_true_eq, apply_ite some]
    rw [if_neg (c := _ ∧ _) (by omega), if_pos (c := c ≤ 0x10FFFF) (by omega)]
    simp only [← Nat.lt_add_one_iff, Nat.reduceAdd]
  · have := mt isScalar_iff.mpr hs
    rw [if_neg hs, if_neg (by omega), if_neg (by omega)]
    simp only [Bool.and_eq_true, decide_eq_true_eq]
    by_cases h : c ≤ 0xDFFF
    · rw [if_pos ⟨by omega, h⟩]
    · rw [if_neg (fun hh => h hh.2), if_neg (by omega), if_neg (by omega)]

/-! ### refinement: each operation computes the sequence operation on code points -/

/-- the abstraction of the canonical representation is the code-point sequence -/
theorem abs_canonical (cps : List Nat) (h : WfCps cps) : abs (repr cps) = cps := by
  rw [abs, isEmpty_repr h]
  cases cps with
  | nil => rfl
  | cons c cs =>
    have := length_le_encodeAll h
    exact decodeAll_encodeAll _ h [] _ (by rw [repr_cons, List.length_append]; exact Nat.lt_succ_of_le this)

/-- `ddp_string_length` counts code points -/
theorem length_spec (cps : List Nat) (h : WfCps cps) : length (repr cps) = cps.length := by
  rw [length, isEmpty_repr h]
  cases cps with
  | nil => rfl
  | cons c cs => exact strlenCp_encodeAll h []

/-- `Text an der Stelle i`: the i-th code point for `1 ≤ i ≤ length`, Laufzeitfehler otherwise -/
theorem index_spec (cps : List Nat) (h : WfCps cps) (i : Int) :
    index (repr cps) i =
      if 1 ≤ i ∧ i ≤ cps.length then (match cps[(i - 1).toNat]? with | some c => .ok c | none => .err)
      else .err := by
  rw [index]
  simp only
  rw [prologue_repr h]
  refine ite_congr rfl (fun hi => ?_) fun _ => rfl
  have hk : (i - 1).toNat < cps.length := by omega
  rw [repr_of_ne_nil (List.ne_nil_of_length_pos (by omega)), walk_index h [] hi.1, decode1_off h hk,
    List.getElem?_eq_getElem hk]

/-- `Speichere c in t an der Stelle i`: the i-th code point is replaced, the others are
unchanged, the representation stays canonical — whether the new character is encoded
shorter, equally long or longer; Laufzeitfehler outside `1 … length` -/
theorem replace_spec (cps : List Nat) (h : WfCps cps) (c : Nat) (hs : isScalar c = true) (h0 : c ≠ 0) (i : Int) :
    replaceChar (repr cps) (c : Int) i =
      if 1 ≤ i ∧ i ≤ cps.length then .ok (TextRT.repr (cps.set (i - 1).toNat c)) else .err := by
  rw [replaceChar]
  simp only
  rw [prologue_repr h]
  refine ite_congr rfl (fun hi => ?_) fun _ => rfl
  have hk : (i - 1).toNat < cps.length := by omega
  rw [charBytes_scalar hs, repr_of_ne_nil (List.ne_nil_of_length_pos (by omega)), walk_index h [] hi.1,
    repr_of_ne_nil (List.ne_nil_of_length_pos (by rw [List.length_set]; omega)), numBytes_off h hk,
    encodeAll_set hk, encodeAll_split_at hk, off]
  simp only [List.append_assoc]
  -- the three memory strategies (overwrite; move the tail down and shrink; new block) all
  -- splice `new` in for `old` in `P ++ old ++ T`
  generalize encodeAll (cps.take (i - 1).toNat) = P, encode cps[(i - 1).toNat] = old, encode c = new,
    encodeAll (cps.drop ((i - 1).toNat + 1)) = E
  generalize hT : E ++ [0] = T
  have hT : T.length = E.length + 1 := by rw [← hT, List.length_append]; rfl
  have hd : (P ++ (old ++ T)).drop (P.length + old.length) = T := by
    rw [← List.length_append, ← List.append_assoc]; exact List.drop_left
  rw [List.take_left, hd, List.take_of_length_le (l := T) (by simp only [List.length_append]; omega)]
  simp only [List.length_append]
  -- the last two compute the same capacity, the size of the new block: they agree
  rw [show P.length + (old.length + E.length) + 1 - old.length + new.length = P.length + (new.length + E.length) + 1
      by omega,
    List.take_of_length_le (by simp only [List.length_append, hT]; omega), ite_self]
  split
  · rename_i he
    rw [← beq_iff_eq.mp he, hd]
  · rfl

/-- `Text im Bereich von i bis j`: both bounds are clamped into `1 … length`; crossed bounds
are a Laufzeitfehler; otherwise the code points `i … j` (inclusive), canonically represented -/
theorem slice_spec (cps : List Nat) (h : WfCps cps) (i j : Int) :
    slice (repr cps) i j =
      if cps.isEmpty then .ok (TextRT.repr [])
      else
        let a := clampI i 1 cps.length
        let b := clampI j 1 cps.length
        if b < a then .err else .ok (TextRT.repr ((cps.drop (a - 1).toNat).take ((b - a).toNat + 1))) := by
  rw [slice, isEmpty_repr h]
  refine ite_congr rfl (fun _ => rfl) fun hie => ?_
  have hne : cps ≠ [] := by simpa using hie
  have hpos : (0 : Int) < cps.length := by have := List.length_pos_iff.mpr hne; omega
  rw [repr_of_ne_nil hne]
  dsimp only
  rw [strlenCp_encodeAll h []]
  have ha1 := (clampI_range i hpos).1
  have hb2 := (clampI_range j hpos).2
  generalize clampI i 1 cps.length = a at *
  generalize clampI j 1 cps.length = b at *
  refine ite_congr rfl (fun _ => rfl) fun hba => ?_
  -- code points `k … k + d` (0-based); the two loops stop at their cursors
  have hkd : (b - 1).toNat < cps.length := by omega
  rw [toNat_span ha1 (Int.not_lt.mp hba)] at hkd ⊢
  generalize (a - 1).toNat = k, (b - a).toNat = d at hkd ⊢
  have hfuel : cps.length < (encodeAll cps ++ [0]).length + 1 := by
    have := length_le_encodeAll h
    rw [List.length_append]; omega
  have w1 := sliceWalk_off h [] k 0 _ (by omega) (Nat.lt_of_le_of_lt (by omega) hfuel)
  have w2 := sliceWalk_off h [] d k _ (by omega) (Nat.lt_of_le_of_lt (by omega) hfuel)
  rw [off_zero, Nat.zero_add] at w1
  rw [w1, w2, numBytes_off h hkd, repr_take_drop (by omega) d [0]]
  dsimp only
  -- `cap - 1` is the distance from the first cursor to the one after code point `k + d`
  have e : off cps (k + d) - off cps k + 1 + (encode cps[k + d]).length = off cps (k + (d + 1)) - off cps k + 1 := by
    rw [← Nat.add_assoc, off_succ hkd, Nat.sub_add_comm (Nat.le.intro (off_add cps k d).symm), Nat.add_right_comm]
  rw [e, Nat.add_sub_cancel]

/-- `Text verkettet mit Text` -/
theorem concat_spec (a b : List Nat) (ha : WfCps a) (hb : WfCps b) :
    concatSS (repr a) (repr b) = TextRT.repr (a ++ b) := by
  rw [concatSS, isEmpty_repr ha, isEmpty_repr hb, deepCopy_repr, take_cap_repr, take_pred_cap_repr]
  cases a with
  | nil => cases b <;> rfl
  | cons c cs =>
    cases b with
    | nil => rw [List.append_nil]; rfl
    | cons d ds =>
      rw [repr_of_ne_nil (List.append_ne_nil_of_left_ne_nil (List.cons_ne_nil c cs) _), encodeAll_append,
        List.length_append, List.append_assoc, Nat.add_assoc]
      rfl

/-- `Buchstabe verkettet mit Text` -/
theorem concat_char_left_spec (c : Nat) (a : List Nat) (hs : isScalar c = true) (h0 : c ≠ 0) (ha : WfCps a) :
    concatCS (c : Int) (repr a) = TextRT.repr (c :: a) := by
  rw [concatCS, charBytes_scalar hs, isEmpty_repr ha, take_cap_repr]
  cases a with
  | nil => exact fromConstant_encode hs h0
  | cons d ds => simp [repr_cons, encodeAll_cons c, Nat.add_comm, Nat.add_left_comm]

/-- `Text verkettet mit Buchstabe` -/
theorem concat_char_right_spec (a : List Nat) (c : Nat) (hs : isScalar c = true) (h0 : c ≠ 0) (ha : WfCps a) :
    concatSC (repr a) (c : Int) = TextRT.repr (a ++ [c]) := by
  rw [concatSC, charBytes_scalar hs, isEmpty_repr ha, take_pred_cap_repr]
  cases a with
  | nil => exact fromConstant_encode hs h0
  | cons d ds =>
    rw [repr_of_ne_nil (List.append_ne_nil_of_left_ne_nil (List.cons_ne_nil d ds) _), encodeAll_append,
      encodeAll_singleton, List.length_append, Nat.add_right_comm]
    rfl

/-- the generated for-each visits exactly the code points, in order, and terminates -/
theorem iteration_spec (cps : List Nat) (h : WfCps cps) : iterateAll (repr cps) = .ok cps := by
  by_cases hne : cps = []
  · subst hne; rfl
  · have := length_le_encodeAll h
    rw [iterateAll, repr_of_ne_nil hne]
    exact iterate_off h [] _ 0 (Nat.lt_succ_of_le (Nat.le_succ_of_le this))

/-- **History independence.**  Texts reachable through the operations are canonical
(`inv_*`), and a canonical text is determined by its code points: two texts with the same
abstraction are the *same* value, hence indistinguishable by every operation — however they
were produced (literal, concatenation, slice, in-place replacement by a shorter or longer
character). -/
theorem history_independent (s t : Text) (hs : Inv s) (ht : Inv t) (h : abs s = abs t) : s = t := by
  obtain ⟨x, hx, rfl⟩ := hs; obtain ⟨y, hy, rfl⟩ := ht
  rw [abs_canonical x hx, abs_canonical y hy] at h; rw [h]

/-- two texts are equal exactly when their code-point sequences are; the comparison never
reads outside a block -/
theorem equal_iff (a b : List Nat) (ha : WfCps a) (hb : WfCps b) :
    equal (repr a) (repr b) = .ok (decide (a = b)) := by
  rw [equal, strlen_repr ha, strlen_repr hb]
  by_cases hl : (encodeAll a).length = (encodeAll b).length
  · have hc : (TextRT.repr a).cap = (TextRT.repr b).cap := by rw [cap_repr ha, cap_repr hb, hl]
    rw [if_neg (by simpa using hl), take_cap_repr, hc, take_cap_repr, length_buf_repr, length_buf_repr, hc,
      if_neg (by simp)]
    congr 1
    rw [Bool.beq_eq_decide_eq, decide_eq_decide]
    -- equal blocks of equal size are the same text, and that has one abstraction
    refine ⟨fun e => ?_, fun e => by rw [e]⟩
    have : TextRT.repr a = TextRT.repr b := (Text.mk.injEq ..).mpr ⟨e, hc⟩
    rw [← abs_canonical a ha, this, abs_canonical b hb]
  · rw [if_pos (by simpa using hl)]
    congr 1
    exact (decide_eq_false fun e => hl (congrArg (fun l => (encodeAll l).length) e)).symm

/-! ### every operation keeps the representation canonical (`cap = strlen + 1 = block size`) -/

theorem inv_fromConstant (cps : List Nat) (h : WfCps cps) (rest : List Nat) :
    Inv (fromConstant (encodeAll cps ++ 0 :: rest)) :=
  ⟨cps, h, fromConstant_encodeAll h (cstr_zero rest)⟩

theorem inv_deepCopy (t : Text) (h : Inv t) : Inv (deepCopy t) := by
  obtain ⟨cps, hw, rfl⟩ := h; exact ⟨cps, hw, deepCopy_repr cps⟩

theorem inv_charToString (c : Nat) (hs : isScalar c = true) (h0 : c ≠ 0) : Inv (charToString (c : Int)) :=
  ⟨[c], .cons hs h0 .nil, charToString_repr hs⟩

theorem inv_concat (a b : Text) (ha : Inv a) (hb : Inv b) : Inv (concatSS a b) := by
  obtain ⟨x, hx, rfl⟩ := ha; obtain ⟨y, hy, rfl⟩ := hb
  exact ⟨x ++ y, hx.append hy, concat_spec x y hx hy⟩

theorem inv_concat_char_left (c : Nat) (hs : isScalar c = true) (h0 : c ≠ 0) (t : Text) (ht : Inv t) :
    Inv (concatCS (c : Int) t) := by
  obtain ⟨x, hx, rfl⟩ := ht
  exact ⟨c :: x, .cons hs h0 hx, concat_char_left_spec c x hs h0 hx⟩

theorem inv_concat_char_right (t : Text) (ht : Inv t) (c : Nat) (hs : isScalar c = true) (h0 : c ≠ 0) :
    Inv (concatSC t (c : Int)) := by
  obtain ⟨x, hx, rfl⟩ := ht
  exact ⟨x ++ [c], hx.append (.cons hs h0 .nil), concat_char_right_spec x c hs h0 hx⟩

/-- also when the new character is shorter or longer than the old one
(this is the theorem that failed before the repair e5a451a of `ddp_replace_char_in_string`) -/
theorem inv_replace (t : Text) (ht : Inv t) (c : Nat) (hs : isScalar c = true) (h0 : c ≠ 0) (i : Int)
    (t' : Text) (hr : replaceChar t (c : Int) i = .ok t') : Inv t' := by
  obtain ⟨x, hx, rfl⟩ := ht
  rw [replace_spec x hx c hs h0 i] at hr
  split at hr
  · cases hr; exact ⟨_, hx.set _ hs h0, rfl⟩
  · cases hr

theorem inv_slice (t : Text) (ht : Inv t) (i j : Int) (t' : Text) (hr : slice t i j = .ok t') : Inv t' := by
  obtain ⟨x, hx, rfl⟩ := ht
  rw [slice_spec x hx i j] at hr
  split at hr
  · cases hr; exact ⟨[], .nil, rfl⟩
  · simp only at hr
    split at hr
    · cases hr
    · cases hr
      exact ⟨_, hx.sub ((List.take_subset _ _).trans (List.drop_subset _ _)), rfl⟩

/-- `Buchstabe als Text als Buchstabe` (first code point) is the identity -/
theorem char_text_char (c : Nat) (hs : isScalar c = true) (h0 : c ≠ 0) :
    index (charToString (c : Int)) 1 = .ok c := by
  rw [charToString_repr hs, index_spec [c] (.cons hs h0 .nil)]
  rfl

/-! ### non-vacuity and the recorded edge -/

example : replaceChar (TextRT.repr [97, 228, 98]) 120 2 = .ok (TextRT.repr [97, 120, 98]) ∧
    equal (TextRT.repr [97, 120, 98]) (fromConstant [0x61, 0x78, 0x62]) = .ok true ∧
    iterateAll (TextRT.repr [97, 0x1F600, 98]) = .ok [97, 0x1F600, 98] := by decide +kernel

/-- recorded: U+0000 is a scalar value that a NUL-terminated text cannot hold; `Buchstabe 0 als
Text` yields a two-byte block that counts as empty, and comparing it with the empty text
`(NULL, 0)` hands `memcmp` a null pointer (model: `overread`; the implementation crashes).
Outside the quantification of this property, listed in DESIGN §10.4. -/
theorem nul_char_edge : charToString 0 = ⟨[0, 0], 2⟩ ∧ equal (charToString 0) emptyText = .overread := by
  decide

end DDP.C12
