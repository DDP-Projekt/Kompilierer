import DDP.Impl.Resolve
import DDP.Impl.AliasMatch
import DDP.Proofs.Sorted

/-!
# C09 — calls resolve to the longest type-matching alias

First part: `DDP.Resolve` (`sortAliases` and the selection of the first fitting candidate); second part, below: `DDP.AliasMatch`
(which tokens of the call become which argument).
-/

namespace DDP.Resolve

/-- `before` spelled out: longer first, then fewer generic parameters, then more Referenz parameters -/
theorem before_iff (a b : Cand) : before a b = true ↔
    (b.len < a.len ∨ (a.len = b.len ∧ (a.gen < b.gen ∨ (a.gen = b.gen ∧ b.refs < a.refs)))) := by
  unfold before
  by_cases e1 : a.len = b.len <;> by_cases e2 : a.gen = b.gen <;> simp [e1, e2] <;> omega

theorem before_false_iff (a b : Cand) : before a b = false ↔
    ¬ (b.len < a.len ∨ (a.len = b.len ∧ (a.gen < b.gen ∨ (a.gen = b.gen ∧ b.refs < a.refs)))) := by
  rw [← before_iff]; simp

theorem before_irrefl (a : Cand) : before a a = false := by
  rw [before_false_iff]; omega

theorem before_asymm (a b : Cand) (h : before a b = true) : before b a = false := by
  rw [before_iff] at h; rw [before_false_iff]; omega

/-- "not before" is a preorder: the one `sortC` sorts by -/
theorem not_before_trans {a b c : Cand} (h1 : before a b = false) (h2 : before b c = false) : before a c = false := by
  rw [before_false_iff] at *; omega

/-- asymmetric and negatively transitive (`not_before_trans`), hence transitive -/
theorem before_trans (a b c : Cand) (h1 : before a b = true) (h2 : before b c = true) : before a c = true :=
  Decidable.by_contra fun h => Bool.false_ne_true <|
    (not_before_trans (before_asymm a b h1) (Bool.eq_false_iff.mpr h)).symm.trans h2

theorem before_total (a b : Cand) : before a b = true ∨ before b a = true ∨ key a = key b := by
  simp only [before_iff, key, Prod.mk.injEq]; omega

theorem insertC_eq (c : Cand) : ∀ l, insertC c l = insertBefore (fun d => !before d c) c l
  | [] => rfl
  | d :: r => by rw [insertC, insertBefore, insertC_eq c r]; cases h : before d c <;> rfl

theorem sortC_perm : ∀ l, (sortC l).Perm l
  | [] => .refl _
  | c :: r => (insertC_eq c _ ▸ insertBefore_perm _ c _).trans ((sortC_perm r).cons c)

theorem sortC_pairwise : ∀ l, (sortC l).Pairwise fun c d => before d c = false
  | [] => .nil
  | c :: r => by
    rw [sortC, insertC_eq]
    exact pairwise_insertBefore (sortC_pairwise r) (fun d _ h => before_asymm d c (by simpa using h))
      fun d _ h => ⟨by simpa using h, fun z hz => not_before_trans hz (by simpa using h)⟩

/-- in the tried order nobody stands behind a candidate that should come before him -/
def Ordered : List Cand → Prop
  | [] => True
  | c :: r => (∀ d ∈ r, before d c = false) ∧ Ordered r

theorem ordered_iff : ∀ l, Ordered l ↔ l.Pairwise fun c d => before d c = false
  | [] => by simp [Ordered]
  | c :: r => by simp [Ordered, ordered_iff r]

theorem sortC_ordered (l : List Cand) : Ordered (sortC l) := (ordered_iff _).mpr (sortC_pairwise l)

/-- **the call goes to a fitting alias, and no fitting alias comes before it**: none is longer; among
the longest none has fewer generic parameters; among those none has more Referenz parameters -/
theorem select_best (cs : List Cand) (c : Cand) (h : select cs = some c) :
    c ∈ cs ∧ c.fits = true ∧ ∀ d ∈ cs, d.fits = true → before d c = false := by
  refine ⟨(sortC_perm cs).mem_iff.mp (List.mem_of_find?_eq_some h), List.find?_some h, fun d hd hdf => ?_⟩
  exact (find?_pairwise (sortC_pairwise cs) h d ((sortC_perm cs).mem_iff.mpr hd) hdf).elim (· ▸ before_irrefl c) id

theorem select_longest (cs : List Cand) (c d : Cand) (h : select cs = some c) (hd : d ∈ cs) (hf : d.fits = true) : d.len ≤ c.len := by
  have := (select_best cs c h).2.2 d hd hf
  rw [before_false_iff] at this; omega

theorem select_prefers_nongeneric (cs : List Cand) (c d : Cand) (h : select cs = some c) (hd : d ∈ cs) (hf : d.fits = true)
    (hl : d.len = c.len) : c.gen ≤ d.gen := by
  have := (select_best cs c h).2.2 d hd hf
  rw [before_false_iff] at this; omega

theorem select_prefers_referenz (cs : List Cand) (c d : Cand) (h : select cs = some c) (hd : d ∈ cs) (hf : d.fits = true)
    (hl : d.len = c.len) (hg : d.gen = c.gen) : d.refs ≤ c.refs := by
  have := (select_best cs c h).2.2 d hd hf
  rw [before_false_iff] at this; omega

/-- a call resolves whenever some matched alias fits -/
theorem select_some (cs : List Cand) (d : Cand) (hd : d ∈ cs) (hf : d.fits = true) : ∃ c, select cs = some c :=
  Option.isSome_iff_exists.mp (List.find?_isSome.mpr ⟨d, (sortC_perm cs).mem_iff.mpr hd, hf⟩)

example : (select [⟨1, 2, 0, 0, true⟩, ⟨2, 3, 0, 0, false⟩, ⟨3, 2, 1, 0, true⟩, ⟨4, 2, 0, 1, true⟩]).map (·.id) = some 4 := by decide

end DDP.Resolve

/-!
# C09 (second part) — how the tokens of a call are bound to the placeholders of an alias

Theorems about `DDP.AliasMatch` (transcription of the `Search` callback in `parser.alias` and of
the argument loop of `parser.checkAlias`).
-/

namespace DDP.AliasMatch

/-- the depth after one more token, when it was `d + 1` before: the one step all three loops
(`closeParen`, `closeParenLax`, `depthAfter`) take -/
def depthStep (d : Nat) (t : Tok) : Nat :=
  match t.kind with
  | .lparen => d + 2
  | .rparen => d
  | _ => d + 1

theorem closeParen_cons (d : Nat) (t : Tok) (r : List Tok) :
    closeParen (d + 1) (t :: r) = (closeParen (depthStep d t) r).map (· + 1) := by
  cases h : t.kind <;> simp only [closeParen, depthStep, h]

theorem closeParenLax_cons (d : Nat) (t : Tok) (r : List Tok) :
    closeParenLax (d + 1) (t :: r) = closeParenLax (depthStep d t) r + 1 := by
  cases h : t.kind <;> simp only [closeParenLax, depthStep, h]

theorem depthAfter_cons (d : Nat) (t : Tok) (r : List Tok) :
    depthAfter (d + 1) (t :: r) = depthAfter (depthStep d t) r := by
  cases h : t.kind <;> simp only [depthAfter, depthStep, h]

/-- the successful runs of the loop: `Closes d ts n` iff `closeParen d ts = some n` (`closeParen_iff`); what is
proved about the loop is proved by induction on these -/
inductive Closes : Nat → List Tok → Nat → Prop
  | done {ts} : Closes 0 ts 0
  | step {d t r m} : Closes (depthStep d t) r m → Closes (d + 1) (t :: r) (m + 1)

theorem Closes.of_closeParen : ∀ (d : Nat) (ts : List Tok) (n : Nat), closeParen d ts = some n → Closes d ts n
  | 0, _, n, h => by simp [closeParen] at h; exact h ▸ .done
  | _ + 1, [], _, h => by simp [closeParen] at h
  | d + 1, t :: r, n, h => by
    rw [closeParen_cons] at h
    obtain ⟨m, hm, rfl⟩ := Option.map_eq_some_iff.mp h
    exact .step (of_closeParen _ r m hm)

theorem closeParen_iff {d : Nat} {ts : List Tok} {n : Nat} : closeParen d ts = some n ↔ Closes d ts n := by
  refine ⟨Closes.of_closeParen d ts n, fun h => ?_⟩
  induction h with
  | done => simp [closeParen]
  | step _ ih => rw [closeParen_cons, ih]; rfl

theorem Closes.le {d ts n} (h : Closes d ts n) : n ≤ ts.length := by
  induction h with
  | done => exact Nat.zero_le _
  | step _ ih => exact Nat.succ_le_succ ih

theorem closeParen_pos (ts : List Tok) (d n : Nat) (h : closeParen (d + 1) ts = some n) : 0 < n := by
  cases closeParen_iff.mp h; exact Nat.succ_pos _

/-- the loop of `checkAlias` (no `p.atEnd()` test behind it) consumes the same tokens whenever the loop of
the `Search` callback succeeds -/
theorem Closes.lax {d ts n} (h : Closes d ts n) : closeParenLax d ts = n := by
  induction h with
  | done => simp [closeParenLax]
  | step _ ih => rw [closeParenLax_cons, ih]

theorem Closes.append {d ts n} (h : Closes d ts n) (ex : List Tok) : Closes d (ts ++ ex) n := by
  induction h with
  | done => exact .done
  | step _ ih => exact .step ih

/-- the argument ends at the *matching* parenthesis -/
theorem Closes.matching {d ts n} (h : Closes d ts n) : depthAfter d (ts.take n) = some 0 ∧
    ∀ m, m < n → ∃ e, depthAfter d (ts.take m) = some (e + 1) := by
  induction h with
  | done => exact ⟨by simp [depthAfter], fun m hm => absurd hm (Nat.not_lt_zero m)⟩
  | @step d t r k _ ih =>
    refine ⟨by rw [List.take_succ_cons, depthAfter_cons]; exact ih.1, fun m hm => ?_⟩
    cases m with
    | zero => exact ⟨d, by simp [depthAfter]⟩
    | succ m => rw [List.take_succ_cons, depthAfter_cons]; exact ih.2 m (Nat.lt_of_succ_lt_succ hm)

/-- the arguments the `Search` callback accepts: `Arg ts k` iff `argSearch ts = some k` (`argSearch_iff`) -/
inductive Arg : List Tok → Nat → Prop
  | single {t r} : t.kind = .num ∨ t.kind = .lit → Arg (t :: r) 1
  | negated {t n r} : t.kind = .negate → n.kind = .num → Arg (t :: n :: r) 2
  | paren {t r n} : t.kind = .lparen → Closes 1 r n → r.drop n ≠ [] → Arg (t :: r) (n + 1)

theorem argSearch_iff {ts : List Tok} {k : Nat} : argSearch ts = some k ↔ Arg ts k := by
  constructor
  · fun_cases argSearch ts <;> rintro ⟨⟩
    · exact .single (.inl ‹_›)
    · exact .single (.inr ‹_›)
    · exact .negated ‹_› ‹_›
    · exact .paren ‹_› (closeParen_iff.mp ‹_›) ‹_›
  · intro h
    cases h with
    | single h => rcases h with h | h <;> simp [argSearch, h]
    | negated h1 h2 => simp [argSearch, h1, h2]
    | paren h1 h2 h3 => simp [argSearch, h1, closeParen_iff.mpr h2, h3]

theorem Arg.bounds {ts k} (h : Arg ts k) : 0 < k ∧ k ≤ ts.length := by
  cases h with
  | single | negated => simp
  | paren _ hc => exact ⟨Nat.succ_pos _, Nat.succ_le_succ hc.le⟩

theorem Arg.spanCheck_eq {ts k} (h : Arg ts k) : spanCheck ts = k := by
  cases h with
  | single h => rcases h with h | h <;> simp [spanCheck, h]
  | negated h1 h2 => simp [spanCheck, h1, h2]
  | paren h1 h2 => simp [spanCheck, h1, h2.lax]

/-- **The two loops agree.**  Whenever the `Search` callback accepts an argument of `k` tokens,
`checkAlias` cuts out exactly those `k` tokens for the argument's sub-parser. -/
theorem spanCheck_eq (ts : List Tok) (k : Nat) (h : argSearch ts = some k) : spanCheck ts = k :=
  (argSearch_iff.mp h).spanCheck_eq

/-- a parenthesised argument is `(` … `)` with balanced content, and something follows it -/
theorem paren_arg_shape (t : Tok) (r : List Tok) (k : Nat) (ht : t.kind = .lparen) (h : argSearch (t :: r) = some k) :
    ∃ n, k = n + 1 ∧ depthAfter 1 (r.take n) = some 0 ∧ (∀ m, m < n → ∃ e, depthAfter 1 (r.take m) = some (e + 1)) ∧
      r.drop n ≠ [] := by
  cases argSearch_iff.mp h with
  | single hk => simp [ht] at hk
  | negated hk => simp [ht] at hk
  | paren _ hc hd => exact ⟨_, rfl, hc.matching.1, hc.matching.2, hd⟩

theorem Arg.append {ts k} (h : Arg ts k) (ex : List Tok) : Arg (ts ++ ex) k := by
  cases h with
  | single h => exact .single h
  | negated h1 h2 => exact .negated h1 h2
  | @paren t r n h1 hc hd =>
    refine .paren (r := r ++ ex) h1 (hc.append ex) ?_
    rw [List.drop_append_of_le_length hc.le]
    exact fun h => hd (List.append_eq_nil_iff.mp h).1

/-- the successful matches: `Match ps ts bs rest` iff `matchPat ps ts = some (bs, rest)` (`matchPat_iff`) -/
inductive Match : List Pat → List Tok → List Binding → List Tok → Prop
  | nil {ts} : Match [] ts [] ts
  | word {w ps r bs rest} : Match ps r bs rest → Match (.word w :: ps) (w :: r) bs rest
  | param {n ps ts k bs rest} : Arg ts k → Match ps (ts.drop k) bs rest →
      Match (.param n :: ps) ts ((n, ts.take k) :: bs) rest

theorem matchPat_iff {ps ts bs rest} : matchPat ps ts = some (bs, rest) ↔ Match ps ts bs rest := by
  refine ⟨fun h => ?_, fun h => ?_⟩
  · fun_induction matchPat ps ts generalizing bs rest with
    | case1 => cases h; exact .nil
    | case2 _ _ _ ih => exact .word (ih h)
    | case5 _ _ _ _ hk _ _ hm ih => cases h; exact .param (argSearch_iff.mp hk) (ih hm)
    | case3 | case4 | case6 | case7 => cases h
  · induction h with
    | nil => rfl
    | word _ ih => simp [matchPat, ih]
    | param hk _ ih => simp [matchPat, argSearch_iff.mpr hk, ih]

def wordCount : List Pat → Nat
  | [] => 0
  | .word _ :: ps => wordCount ps + 1
  | .param _ :: ps => wordCount ps

theorem Match.length {ps ts bs rest} (h : Match ps ts bs rest) :
    wordCount ps + (bs.map (·.2.length)).sum + rest.length = ts.length := by
  induction h with
  | nil => exact Nat.zero_add _
  | word _ ih => rw [wordCount, List.length_cons, ← ih]; omega
  | @param _ _ ts k _ _ _ _ ih =>
    have : (ts.take k).length + (ts.drop k).length = ts.length := by rw [← List.length_append, List.take_append_drop]
    simp only [wordCount, List.map_cons, List.sum_cons]; omega

theorem sum_ge_mem (l : List Nat) (x : Nat) (h : x ∈ l) : x ≤ l.sum := by
  obtain ⟨s, t, rfl⟩ := List.append_of_mem h
  rw [List.sum_append_nat, List.sum_cons]
  omega

/-- **Nested calls terminate.**  If the pattern contains at least one word (which
`validateAliasHasWord` demands of every declared alias), the sub-parser started for an argument always gets
fewer tokens than its parent had, so the recursion through `checkAlias` is bounded by the number of tokens. -/
theorem Match.shorter {ps ts bs rest} (h : Match ps ts bs rest) (hw : 0 < wordCount ps) :
    rest.length < ts.length ∧ ∀ b ∈ bs, b.2.length < ts.length := by
  have hl := h.length
  refine ⟨by omega, fun b hb => ?_⟩
  have := sum_ge_mem (bs.map (·.2.length)) b.2.length (List.mem_map.mpr ⟨b, hb, rfl⟩)
  omega

/-- without a word: the alias `"<x>"` matches a call consisting of its own argument only, and with the EOF token
`checkAlias` appends (`other 0` here) the argument's sub-parser gets all the tokens of its parent again -/
theorem no_word_no_progress :
    let ts := [Tok.mk .num 7, Tok.mk .other 0]
    matchPat [.param 1] ts = some ([(1, [Tok.mk .num 7])], [Tok.mk .other 0]) ∧ wordCount [.param 1] = 0 := by decide

/-- **Arguments are bound by name, not by position.**  Renaming the placeholders of a pattern
renames the bindings accordingly and changes nothing else — in particular two aliases that differ
only in which parameter stands where bind the same tokens to swapped names. -/
theorem bind_by_name (f : Nat → Nat) : ∀ (ps : List Pat) (ts : List Tok),
    matchPat (ps.map (Pat.rename f)) ts =
      (matchPat ps ts).map (fun r => (r.1.map (fun b => (f b.1, b.2)), r.2)) := by
  intro ps ts
  fun_induction matchPat ps ts <;> simp [matchPat, Pat.rename, *]

/-- **`checkAlias` binds what `Search` matched.**  For a pattern that matched, cutting the
arguments out again (with the second loop, which never fails) gives the same bindings. -/
theorem cutArgs_eq : ∀ (ps : List Pat) (ts : List Tok) (bs : List Binding) (rest : List Tok),
    matchPat ps ts = some (bs, rest) → cutArgs ps ts = bs := by
  intro ps ts bs rest h
  replace h := matchPat_iff.mp h
  induction h with
  | nil => rfl
  | word _ ih => simpa [cutArgs] using ih
  | param hk _ ih => simp [cutArgs, hk.spanCheck_eq, ih]

/-- **What follows a call does not change how it is matched.** -/
theorem matchPat_append : ∀ (ps : List Pat) (ts ex : List Tok) (bs : List Binding) (rest : List Tok),
    matchPat ps ts = some (bs, rest) → matchPat ps (ts ++ ex) = some (bs, rest ++ ex) := by
  intro ps ts ex bs rest h
  replace h := matchPat_iff.mp h
  refine matchPat_iff.mpr ?_
  induction h with
  | nil => exact .nil
  | word _ ih => exact .word ih
  | @param n ps ts k bs rest hk _ ih =>
    rw [← List.take_append_of_le_length hk.bounds.2]
    exact .param (hk.append ex) (by rwa [List.drop_append_of_le_length hk.bounds.2])

/-! ### non-vacuity: `nimm <a> von <b>` on `nimm -3 von ( f ( 1 ) ) .` -/

example :
    let w (i : Nat) : Tok := ⟨.num, i⟩        -- identifiers: 1 = nimm, 3 = f
    let von : Tok := ⟨.other, 2⟩
    let lp : Tok := ⟨.lparen, 0⟩; let rp : Tok := ⟨.rparen, 0⟩; let dot : Tok := ⟨.other, 9⟩
    let ts := [w 1, ⟨.negate, 0⟩, w 30, von, lp, w 3, lp, w 31, rp, rp, dot]
    matchPat [.word (w 1), .param 10, .word von, .param 11] ts =
      some ([(10, [⟨.negate, 0⟩, w 30]), (11, [lp, w 3, lp, w 31, rp, rp])], [dot]) ∧
    -- the same call without anything after the closing parenthesis is not matched (`p.atEnd()`)
    matchPat [.word (w 1), .param 10, .word von, .param 11] (ts.take 10) = none := by decide +kernel

end DDP.AliasMatch
