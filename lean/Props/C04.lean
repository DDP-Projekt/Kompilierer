import DDP.Spec.Static

/-!
# C04 — statically ill-formed programs are never accepted

`DDP.Spec.checkProgram` is the statement of the static rules for the core language; the compiler's
verdict is compared with it on generated programs and on their ill-formed variants
(`vlib/props/C04.py`).  The theorems say, rule by rule, that the statement rejects what the
property lists.
-/

namespace DDP.Spec

/-- an undeclared (or no longer visible) name has no type -/
theorem undeclared_name (env : SEnv) (n : String) (h : env.lookup n = none) : typeOf env (.var n) = none := by
  simp [typeOf, h]

/-- so every statement that uses the name is rejected; stated for an initialiser -/
theorem undeclared_in_initialiser (env : SEnv) (t : Ty) (x n : String) (h : env.lookup n = none) :
    checkStmt env (.decl t x (.var n)) = none := by
  simp [checkStmt, undeclared_name env n h]

/-- a name declared in the innermost scope cannot be declared there again -/
theorem redeclaration (env : SEnv) (sc : TScope) (rest : List TScope) (n : String) (t t' : Ty)
    (hs : env.scopes = sc :: rest) (h : (n, t') ∈ sc) : env.declare n t = none := by
  rw [SEnv.declare, hs]
  exact if_pos (List.find?_isSome.2 ⟨(n, t'), h, beq_self_eq_true n⟩)

/-- a name declared inside a block is not declared after it: the statement after the block sees the old environment -/
theorem block_scope_ends (env env' : SEnv) (c : Expr) (a b : List Stmt) (h : checkStmt env (.ifElse c a b) = some env') : env' = env := by
  rw [checkStmt, Option.ite_some_none_eq_some] at h
  exact h.2.symm

/-- initialisers and assigned values: equal types, any numeric for any numeric, anything but nothing
into a Variable — and nothing else -/
theorem initialiser_rule (target value : Ty) :
    assignable target value = true ↔
      (target = value ∨ (target = .variable ∧ value ≠ .nichts) ∨ (target.isNum = true ∧ value.isNum = true)) := by
  simp only [assignable, Bool.or_eq_true, Bool.and_eq_true, beq_iff_eq, bne_iff_ne, or_assoc]

theorem wrong_initialiser (env : SEnv) (t te : Ty) (n : String) (e : Expr) (he : typeOf env e = some te)
    (h : assignable t te = false) : checkStmt env (.decl t n e) = none := by
  simp [checkStmt, he, h]

theorem wrong_assignment (env : SEnv) (target e : Expr) (tt te : Ty) (ht : typeOf env target = some tt) (he : typeOf env e = some te)
    (h : assignable tt te = false) : checkStmt env (.assign target e) = none := by
  simp [checkStmt, ht, he, h]

/-- a condition that is not a Wahrheitswert -/
theorem wrong_condition_if (env : SEnv) (c : Expr) (a b : List Stmt) (tc : Ty) (hc : typeOf env c = some tc) (h : tc ≠ .wahr) :
    checkStmt env (.ifElse c a b) = none := by
  simp [checkStmt, hc, h]

theorem wrong_condition_while (env : SEnv) (c : Expr) (body : List Stmt) (tc : Ty) (hc : typeOf env c = some tc) (h : tc ≠ .wahr) :
    checkStmt env (.while c body) = none := by
  simp [checkStmt, hc, h]

/-- the upper bound of a counting loop must be numeric -/
theorem wrong_loop_bound (env : SEnv) (n : String) (t tf tt : Ty) (frm to : Expr) (step : Option Expr) (body : List Stmt)
    (hf : typeOf env frm = some tf) (ht : typeOf env to = some tt) (h : tt.isNum = false) :
    checkStmt env (.forRange n t frm to step body) = none := by
  simp [checkStmt, hf, ht, h]

/-- operands: every operator has its admissible operand types, e.g. no arithmetic on a Text -/
theorem wrong_operand_plus (b : Ty) : binTy .plus .text b = none := rfl

theorem wrong_operand_und (a b : Ty) (h : a ≠ .wahr) : binTy .and a b = none :=
  if_neg (by simp [h])

/-- arguments: the parameter's type exactly -/
theorem wrong_argument (env : SEnv) (params : List Param) (p : Param) (pn : String) (ae : Expr) (ta : Ty) (rest : List (String × Expr))
    (hp : params.find? (·.name == pn) = some p) (ha : typeOf env ae = some ta) (h : ta ≠ p.ty) :
    typeArgs env params ((pn, ae) :: rest) = false := by
  simp [typeArgs, hp, ha, h]

/-- a Referenz parameter takes an assignable, not a value (stated for a number literal as the argument) -/
theorem value_for_referenz (env : SEnv) (params : List Param) (p : Param) (pn : String) (v : Int) (rest : List (String × Expr))
    (hp : params.find? (·.name == pn) = some p) (hr : p.isRef = true) :
    typeArgs env params ((pn, .intLit v) :: rest) = false := by
  simp [typeArgs, hp, hr, typeOf]

/-- returned values: the declared type exactly (or anything into a Variable) -/
theorem wrong_return (env : SEnv) (rt te : Ty) (e : Expr) (hr : env.ret = some rt) (he : typeOf env e = some te)
    (h : returnable rt te = false) : checkStmt env (.ret (some e)) = none := by
  simp [checkStmt, hr, he, h]

/-- `Verlasse die Schleife` / `Fahre mit der Schleife fort` outside of a loop -/
theorem break_outside_loop (env : SEnv) (h : env.loopDepth = 0) : checkStmt env .break = none ∧ checkStmt env .continue = none := by
  simp [checkStmt, h]

/-- a value-returning function whose body does not end in a return is rejected -/
theorem missing_final_return (env : SEnv) (f : Func) (h1 : f.ret ≠ .nichts) (h2 : endsInReturn f.body = false) : checkFunc env f = false := by
  simp [checkFunc, h1, h2]

theorem checkBlock_append (env : SEnv) (a b : List Stmt) :
    checkBlock env (a ++ b) = (checkBlock env a).bind fun env' => checkBlock env' b := by
  induction a generalizing env with
  | nil => rfl
  | cons s r ih => simp only [List.cons_append, checkBlock, ih, Option.bind_assoc]

/-- a rejected statement rejects the block around it (`checkFunc` and `checkProgram` ask `checkBlock` of the bodies) -/
theorem block_rejects (env : SEnv) (pre post : List Stmt) (s : Stmt) :
    ∀ env', checkBlock env pre = some env' → checkStmt env' s = none → checkBlock env (pre ++ s :: post) = none := by
  intro env' h hs
  rw [checkBlock_append, h, Option.bind_some, checkBlock, hs, Option.bind_none]

example : checkProgram { structs := [], funcs := [], main := [.decl .zahl "a" (.intLit 1), .print (.var "a") true] } 1 = true := by decide +kernel
example : checkProgram { structs := [], funcs := [], main := [.decl .zahl "a" (.textLit []), .print (.var "a") true] } 1 = false := by decide +kernel
example : checkProgram { structs := [], funcs := [], main := [.decl .zahl "a" (.intLit 1), .decl .zahl "a" (.intLit 2)] } 2 = false := by decide +kernel

end DDP.Spec
