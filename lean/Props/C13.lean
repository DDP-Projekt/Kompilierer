import DDP.Proofs.Scanner

/-!
# C13 — the token stream is a faithful, positioned partition of the source

Property theorems over `DDP.Scanner.scan` (L1 model of `src/scanner/scanner.go`, tied to
the code by the exhaustive correspondence run of `./check C13`) and the regenerated
keyword table (`DDP.Generated.keywordMap`).  The stream theorems are read off the invariant
`ResultOk` (`scan_ok`, `DDP/Proofs/Scanner.lean`).
-/

namespace DDP.Scanner
open DDP.Generated

/-- The scanner terminates on every source, in both modes, from every origin
(C03 uses it): the fuel `|src|+1` is never exhausted, because
every token consumes at least one code point (`BodyOk.nonempty`). -/
theorem scan_total (m : Mode) (origin : Pos) (indent : Nat) (src : List Char) :
    ∃ r, scan m origin indent src = some r :=
  scanAllFuel_total m _ _ src (Nat.lt_succ_self _)

/-- Partition: the source is exactly gap₁ ++ text₁ ++ … ++ gapₙ ++ textₙ ++ trailing blanks,
in order, every gap consists of blanks only and no token is empty. -/
theorem scan_partition (m : Mode) (origin : Pos) (indent : Nat) (src : List Char) (r : Result)
    (h : scan m origin indent src = some r) :
    coveredBy r.segs ++ r.trailing = src ∧ (∀ sg ∈ r.segs, Blank sg.gap ∧ sg.body ≠ []) ∧
      Blank r.trailing :=
  have ok := scan_ok h
  ⟨ok.cover, fun sg hsg => ⟨(ok.segs sg hsg).blank, (ok.segs sg hsg).nonempty⟩, ok.trailing⟩

/-- The literal of every token is the exact source text it covers; the only exception
is ILLEGAL (an unterminated text/character literal), whose literal is a message. -/
theorem scan_literal (m : Mode) (origin : Pos) (indent : Nat) (src : List Char) (r : Result)
    (h : scan m origin indent src = some r) :
    ∀ sg ∈ r.segs, sg.tok.type ≠ .ILLEGAL → sg.tok.literal = sg.body :=
  fun sg hsg => ((scan_ok h).segs sg hsg).lit

/-- Positions: every token starts at the position reached from the origin after the text
before it and ends at the position after its own text, counted in code points with
line breaks starting a new line at column 1; the EOF token sits at the end of the source.
Hypothesis (exactly what the code does not do): a line break inside an alias placeholder
`<…>` is consumed without line bookkeeping (`scan_positions_placeholder_newline` below). -/
theorem scan_positions (m : Mode) (origin : Pos) (indent : Nat) (src : List Char) (r : Result)
    (h : scan m origin indent src = some r) (hnl : NoNlInPlaceholders r.segs) :
    PosOk origin r.segs ∧ r.eof.start = posAfter origin src ∧ r.eof.stop = r.eof.start :=
  (scan_ok h).pos hnl

/-- Every token of the stream is the result of one `NextToken` dispatch on a non-blank
first rune; this lifts the per-token theorems (`BodyOk`, the kind theorems below) to the whole stream. -/
theorem scan_tokens_from_dispatch (m : Mode) (origin : Pos) (indent : Nat) (src : List Char) (r : Result)
    (h : scan m origin indent src = some r) :
    ∀ sg ∈ r.segs, ∃ s0 c cs, sg.tok = (scanBody m s0 c cs).1 ∧ sg.body = (scanBody m s0 c cs).2.2.1 ∧
      isSpace c = false :=
  fun sg hsg => ((scan_ok h).segs sg hsg).fromBody

/-- `scan_positions` without side condition for `scanner.Scan` (normal / strict mode): only
alias mode produces placeholders (`BodyOk.alias`). -/
theorem scan_positions_normal (strict : Bool) (origin : Pos) (indent : Nat) (src : List Char) (r : Result)
    (h : scan ⟨strict, false⟩ origin indent src = some r) :
    PosOk origin r.segs ∧ r.eof.start = posAfter origin src ∧ r.eof.stop = r.eof.start := by
  refine scan_positions _ origin indent src r h fun sg hsg hty => ?_
  obtain ⟨s0, c, cs, ht, -, hsp⟩ := scan_tokens_from_dispatch _ origin indent src r h sg hsg
  cases (scanBody_ok (ne_nl_of_not_isSpace hsp)).alias (ht ▸ hty)

/-- Kind of a word: a token that starts with a letter is the maximal run of letters and
digits, and its type is the keyword-table lookup of that run (exact spelling first, then
lower-cased), IDENTIFIER otherwise. -/
theorem word_kind (m : Mode) (s0 : St) (c : Char) (cs : List Char) (hc : isAlpha c = true) :
    let o := scanBody m s0 c cs
    o.1.type = identifierType o.2.2.1 ∧ (∀ d ∈ o.2.2.1, isAlphaNumeric d = true) ∧
      (∀ d rest, o.2.2.2.1 = d :: rest → isAlphaNumeric d = false) := by
  intro o
  have ho : o = scanIdent m s0 c cs := if_pos hc
  simp only [ho, scanIdent, emit, takeWhileSt_eq]
  exact ⟨rfl, List.forall_mem_cons.mpr ⟨by simp [isAlphaNumeric, hc], List.all_eq_true.mp List.all_takeWhile⟩,
    fun _ _ => not_of_dropWhile_eq_cons⟩

/-- Kind of a number: a token that starts with a digit is INT — a maximal run of digits not
followed by `,digit` — or FLOAT — digits, a comma, digits, maximal. -/
theorem number_kind (m : Mode) (s0 : St) (c : Char) (cs : List Char) (ha : isAlpha c = false)
    (hd : isDigit c = true) :
    let o := scanBody m s0 c cs
    (o.1.type = .INT ∧ (∀ d ∈ o.2.2.1, isDigit d = true) ∧
        (∀ d rest, o.2.2.2.1 = d :: rest → isDigit d = false) ∧
        (∀ d rest, o.2.2.2.1 = ',' :: d :: rest → isDigit d = false)) ∨
    (o.1.type = .FLOAT ∧ ∃ a b, o.2.2.1 = a ++ ',' :: b ∧ a ≠ [] ∧ b ≠ [] ∧
        (∀ d ∈ a, isDigit d = true) ∧ (∀ d ∈ b, isDigit d = true) ∧
        (∀ d rest, o.2.2.2.1 = d :: rest → isDigit d = false)) := by
  intro o
  have ho : o = scanNum s0 c cs := by
    show scanBody m s0 c cs = _; unfold scanBody; rw [if_neg (by simp [ha]), if_pos hd]
  have run : ∀ l : List Char, ∀ d ∈ c :: l.takeWhile isDigit, isDigit d = true := fun _ =>
    List.forall_mem_cons.mpr ⟨hd, List.all_eq_true.mp List.all_takeWhile⟩
  simp only [ho, scanNum, emit, mkTok]
  rcases scanNumber_cases (s0.adv c) cs with ⟨e, hno⟩ | ⟨d, ds, hr, hdig, e⟩ <;>
    simp only [e, takeWhileSt_eq] at *
  · exact .inl ⟨rfl, run _, fun _ _ => not_of_dropWhile_eq_cons, hno⟩
  · exact .inr ⟨rfl, c :: cs.takeWhile isDigit, (d :: ds).takeWhile isDigit, rfl, nofun, by simp [hdig],
      run _, List.all_eq_true.mp List.all_takeWhile, fun _ _ => not_of_dropWhile_eq_cons⟩

/-- Exactly one EOF token, and it is the last one. -/
theorem scan_eof (m : Mode) (origin : Pos) (indent : Nat) (src : List Char) (r : Result)
    (h : scan m origin indent src = some r) :
    r.tokens.getLast? = some r.eof ∧ r.eof.type = .EOF ∧ r.eof.literal = [] ∧
      ∀ sg ∈ r.segs, sg.tok.type ≠ .EOF :=
  have ok := scan_ok h
  ⟨by simp [Result.tokens], ok.eofType, ok.eofLit, fun sg hsg => (ok.segs sg hsg).noteof⟩

/-- the ASCII spelling of a word: ae/oe/ue/ss for ä/ö/ü/ß -/
def translit : List Char → List Char
  | [] => []
  | c :: cs =>
    (if c = 'ä' then ['a', 'e'] else if c = 'ö' then ['o', 'e'] else if c = 'ü' then ['u', 'e']
     else if c = 'Ä' then ['A', 'e'] else if c = 'Ö' then ['O', 'e'] else if c = 'Ü' then ['U', 'e']
     else if c = 'ß' then ['s', 's'] else [c]) ++ translit cs

/-- A spelling read as a numeral in base 2³² (digit: code point + 1, which makes `code`
injective).  Only for evaluating lookups in the kernel, which reaches the characters of a
string literal by decoding its UTF-8: it remembers the value of `code e.1.toList`, so each
spelling is decoded once, and compares numerals in one step, where a comparison of
`String.toList`s walks the decoded list again each time. -/
def code (w : List Char) : Nat := w.foldr (fun c n => n * 4294967296 + (c.toNat + 1)) 0

theorem code_inj : ∀ {v w : List Char}, code v = code w → v = w
  | [], [], _ => rfl
  | [], d :: w, h | d :: w, [], h => by simp only [code, List.foldr] at h; omega
  | c :: v, d :: w, h => by
    have hc : c.toNat < 4294967296 := c.val.toNat_lt
    have hd : d.toNat < 4294967296 := d.val.toNat_lt
    have h : code v * 4294967296 + (c.toNat + 1) = code w * 4294967296 + (d.toNat + 1) := h
    rw [Char.toNat_inj.mp (by omega : c.toNat = d.toNat), code_inj (by omega : code v = code w)]

theorem lookupKw_eq_code (w : List Char) :
    lookupKw w = (keywordMap.find? (fun e => code e.1.toList == code w)).map (·.2) := by
  unfold lookupKw
  congr 2; funext e
  exact Bool.eq_iff_iff.mpr (by simpa using ⟨congrArg code, code_inj⟩)

theorem translit_ascii {w : List Char} (h : ∀ c ∈ w, c.toNat < 128) : translit w = w := by
  induction w with
  | nil => rfl
  | cons c w ih =>
    obtain ⟨hc, hw⟩ := List.forall_mem_cons.mp h
    have ne : ∀ u : Char, 128 ≤ u.toNat → c ≠ u := fun u hu e => by rw [e] at hc; omega
    simp [translit, ih hw, ne]

/-- The one evaluation over the regenerated table: every spelling is found under itself, and
also under its transliteration; an ASCII spelling is its own (`translit_ascii`), so only the
others are looked up twice. -/
theorem keywordMap_lookups : ∀ e ∈ keywordMap,
    (keywordMap.find? (fun x => code x.1.toList == code e.1.toList)).map (·.2) = some e.2 ∧
    ((∀ c ∈ e.1.toList, c.toNat < 128) ∨
      (keywordMap.find? (fun x => code x.1.toList == code (translit e.1.toList))).map (·.2) = some e.2) := by
  decide +kernel

/-- ASCII spellings: for every keyword written with ä/ö/ü/ß the table also contains its
transliteration (ae/oe/ue/ss) with the same token type.  A statement about the
regenerated table (`keywordMap_lookups`). -/
theorem ascii_spellings :
    ∀ e ∈ keywordMap, lookupKw (translit e.1.toList) = some e.2 := fun e he => by
  obtain ⟨h, ha | ht⟩ := keywordMap_lookups e he
  · rw [translit_ascii ha, lookupKw_eq_code, h]
  · rw [lookupKw_eq_code, ht]

/-- The keyword table is a function: no spelling is listed twice with different types
(so `lookupKw`, which takes the first hit, agrees with Go's map lookup). -/
theorem keywordMap_functional :
    ∀ e ∈ keywordMap, lookupKw e.1.toList = some e.2 := fun e he => by
  rw [lookupKw_eq_code, (keywordMap_lookups e he).1]

/-- Capitalised forms: a word that is not itself a keyword is looked up in lower case. -/
theorem keyword_kind (w : List Char) :
    identifierType w = (match lookupKw w with
      | some t => if t = .IDENTIFIER then keywordToTokenType (w.map toLowerChar) else t
      | none => keywordToTokenType (w.map toLowerChar)) := by
  unfold identifierType keywordToTokenType
  cases lookupKw w <;> simp

/-! ### the premises are satisfiable, the recorded deviation is real -/

/-- non-vacuity: a concrete two-line source is scanned, positions as stated -/
example : (scan ⟨true, false⟩ ⟨1, 1⟩ 0 "Die Zahl\n\tx ist 1,5.".toList).map
    (fun r => r.tokens.map (fun t => (t.type, t.start, t.stop, t.indent))) =
    some [(.DIE, ⟨1,1⟩, ⟨1,4⟩, 0), (.ZAHL, ⟨1,5⟩, ⟨1,9⟩, 0), (.IDENTIFIER, ⟨2,2⟩, ⟨2,3⟩, 1),
      (.IST, ⟨2,4⟩, ⟨2,7⟩, 1), (.FLOAT, ⟨2,8⟩, ⟨2,11⟩, 1), (.DOT, ⟨2,11⟩, ⟨2,12⟩, 1),
      (.EOF, ⟨2,12⟩, ⟨2,12⟩, 1)] := by decide +kernel

/-- the deviation excluded by `NoNlInPlaceholders`: in alias mode a line break inside
`<…>` does not advance the line (what the Go code does; recorded, judged harmless because
alias literals are single-line in practice) -/
theorem scan_positions_placeholder_newline :
    (scan ⟨false, true⟩ ⟨1, 1⟩ 0 "<a\nb> c".toList).map (fun r => r.tokens.map (·.start)) =
      some [⟨1,1⟩, ⟨1,7⟩, ⟨1,8⟩] := by decide +kernel

/-! ### indentation depth: tabs or groups of four spaces at the start of a line -/

/-- Indentation: at the start of a line `skipWhitespace` raises the depth by what the
specification `indentSpec` counts in the blanks in front (as long as no line break is among them). -/
theorem skipWs_indent (s : St) (n : Nat) (cs : List Char) (hs : s.shouldIndent = true)
    (hnl : '\n' ∉ cs.takeWhile isSpace) :
    (skipWs s n cs).st.indent = s.indent + indentSpec n (cs.takeWhile isSpace) := by
  fun_induction skipWs s n cs with
  | case1 => rfl
  | case6 => exact absurd (List.mem_cons_self ..) hnl
  | case7 _ _ c _ h1 h2 h3 h4 => rw [List.takeWhile_cons_of_neg (by simp [isSpace, *])]; rfl
  | case2 _ _ _ _ ih | case3 _ _ _ _ ih | case4 _ _ _ _ ih | case5 _ _ _ _ _ ih =>
    -- a space, `\r` or tab: `advance()` keeps `shouldIndent`, so the rest is counted as the
    -- specification counts it; on this blank both take the same branch, with the same `n`
    rw [List.takeWhile_cons_of_pos (by rfl), indentSpec, Sub.cons,
      ih (by simp [St.adv, hs, isSpace]) fun h => hnl (List.mem_cons_of_mem _ h)]
    clear ih hnl  -- left in, they double the cost of `simp_all`
    simp_all [St.adv, Nat.add_assoc]

theorem skipWs_indent_replicate (b : Char) (hb : isSpace b = true) (hbn : b ≠ '\n') (k : Nat) (s : St)
    (c : Char) (cs : List Char) (hs : s.shouldIndent = true)
    (h1 : c ≠ ' ') (h2 : c ≠ '\r') (h3 : c ≠ '\t') (h4 : c ≠ '\n') :
    (skipWs s 0 (List.replicate k b ++ c :: cs)).st.indent = s.indent + indentSpec 0 (List.replicate k b) := by
  have hc : isSpace c = false := by simp [isSpace, *]
  have ht : (List.replicate k b ++ c :: cs).takeWhile isSpace = List.replicate k b := by
    rw [List.takeWhile_append_of_pos fun d hd => List.eq_of_mem_replicate hd ▸ hb,
      List.takeWhile_cons_of_neg (by simp [hc]), List.append_nil]
  rw [skipWs_indent s 0 _ hs (by simpa [ht] using fun _ => hbn.symm), ht]

theorem indentSpec_tabs (t n : Nat) : indentSpec n (List.replicate t '\t') = t := by
  induction t generalizing n with
  | zero => rfl
  | succ t ih => simp [List.replicate_succ, indentSpec, ih]; omega

theorem indentSpec_spaces (m : Nat) : ∀ n, n < 4 → indentSpec n (List.replicate m ' ') = (n + m) / 4 := by
  induction m with
  | zero => intro n hn; simp [indentSpec]; omega
  | succ m ih =>
    intro n hn
    simp only [List.replicate_succ, indentSpec, if_true]
    split
    · rw [ih 0 (by omega)]; omega
    · rw [ih (n + 1) (by omega)]; omega

/-- a line that starts with `t` tabs has indentation depth `t` more -/
theorem indent_tabs (t : Nat) (s : St) (c : Char) (cs : List Char) (hs : s.shouldIndent = true)
    (h1 : c ≠ ' ') (h2 : c ≠ '\r') (h3 : c ≠ '\t') (h4 : c ≠ '\n') :
    (skipWs s 0 (List.replicate t '\t' ++ c :: cs)).st.indent = s.indent + t := by
  rw [skipWs_indent_replicate '\t' rfl (by decide) t s c cs hs h1 h2 h3 h4, indentSpec_tabs]

/-- four spaces count as one level, and fewer than four left over count nothing -/
theorem indent_spaces (k r : Nat) (hr : r < 4) (s : St) (c : Char) (cs : List Char) (hs : s.shouldIndent = true)
    (h1 : c ≠ ' ') (h2 : c ≠ '\r') (h3 : c ≠ '\t') (h4 : c ≠ '\n') :
    (skipWs s 0 (List.replicate (4 * k + r) ' ' ++ c :: cs)).st.indent = s.indent + k := by
  rw [skipWs_indent_replicate ' ' rfl (by decide) _ s c cs hs h1 h2 h3 h4, indentSpec_spaces _ 0 (by omega)]
  omega

end DDP.Scanner
