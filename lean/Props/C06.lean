import DDP.Impl.Bounds
import Props.C12

/-!
# C06 — out-of-domain operations stop with a Laufzeitfehler, never silently

The list checks are theorems over the *regenerated* comparison facts
(`DDP.Generated.BoundsFacts`, extracted from `compiler.go` / `list_types.go` on every run),
interpreted over all 2^64 × 2^64 machine values.  Text checks are theorems over the L1
model of the C runtime (shared with C12).

The machine comparisons are read as comparisons of `toInt` (`BitVec.slt_iff_toInt_lt`), and
`-`/`+` as integer subtraction and addition wherever the result is in range
(`toInt_sub_of_range`); what remains is linear arithmetic over the integers.
-/

namespace DDP.C06
open DDP.Generated

theorem toInt_one : (1#64).toInt = 1 := by decide

/-- `BitVec.toInt_sub_of_not_ssubOverflow`, the hypothesis as the two inequalities `omega` works with -/
theorem toInt_sub_of_range {x y : BitVec 64} (h1 : -2 ^ 63 ≤ x.toInt - y.toInt) (h2 : x.toInt - y.toInt < 2 ^ 63) :
    (x - y).toInt = x.toInt - y.toInt := by
  rw [BitVec.toInt_sub]; exact Int.bmod_eq_of_le (by omega) (by omega)

theorem toInt_add_of_range {x y : BitVec 64} (h1 : -2 ^ 63 ≤ x.toInt + y.toInt) (h2 : x.toInt + y.toInt < 2 ^ 63) :
    (x + y).toInt = x.toInt + y.toInt := by
  rw [BitVec.toInt_add]; exact Int.bmod_eq_of_le (by omega) (by omega)

theorem toInt_sub_one {x : BitVec 64} (h : x.toInt ≠ -2 ^ 63) : (x - 1#64).toInt = x.toInt - 1 := by
  have := x.le_toInt
  have := x.toInt_lt
  rw [toInt_sub_of_range, toInt_one] <;> rw [toInt_one] <;> omega

theorem idx_core (idx len : BitVec 64) (hlen : 0 ≤ len.toInt) :
    (((idx - 1#64).slt len && (0#64).sle (idx - 1#64)) = true ↔ 1 ≤ idx.toInt ∧ idx.toInt ≤ len.toInt) ∧
    (1 ≤ idx.toInt ∧ idx.toInt ≤ len.toInt → (idx - 1#64).toInt = idx.toInt - 1) := by
  have := len.toInt_lt
  simp only [Bool.and_eq_true, BitVec.slt_iff_toInt_lt, BitVec.sle_iff_toInt_le, BitVec.toInt_zero]
  by_cases hm : idx.toInt = -2 ^ 63
  · -- `index - 1` wraps around to `2^63 - 1`, which no length exceeds
    have : (idx - 1#64).toInt = 2 ^ 63 - 1 := by rw [BitVec.toInt_sub, hm]; decide
    omega
  · rw [toInt_sub_one hm]
    omega

/-- **List index, value position** (`l an der Stelle i`): for every index and every
(non-negative) length the emitted check passes exactly for `1 ≤ index ≤ length`, and then
the element accessed is `index - 1`, inside the list.  All 2^128 pairs, including
`index = -2^63`, where `index - 1` wraps around to `2^63 - 1`. -/
theorem rvalue_index_correct (idx len : BitVec 64) (hlen : 0 ≤ len.toInt) :
    ((rvalueIndexCheck.eval idx len).1 = true ↔ 1 ≤ idx.toInt ∧ idx.toInt ≤ len.toInt) ∧
    (1 ≤ idx.toInt ∧ idx.toInt ≤ len.toInt → (rvalueIndexCheck.eval idx len).2.toInt = idx.toInt - 1) :=
  idx_core idx len hlen

/-- **List index, assignment target / Referenz argument / nested indexing** -/
theorem lvalue_index_correct (idx len : BitVec 64) (hlen : 0 ≤ len.toInt) :
    ((lvalueIndexCheck.eval idx len).1 = true ↔ 1 ≤ idx.toInt ∧ idx.toInt ≤ len.toInt) ∧
    (1 ≤ idx.toInt ∧ idx.toInt ≤ len.toInt → (lvalueIndexCheck.eval idx len).2.toInt = idx.toInt - 1) :=
  idx_core idx len hlen

/-- a Byte index is zero-extended before the check (`floatOrByteAsInt`): same statement on 0…255 -/
theorem byte_index_correct (b : BitVec 8) (len : BitVec 64) (hlen : 0 ≤ len.toInt) :
    (rvalueIndexCheck.eval (b.zeroExtend 64) len).1 = true ↔ 1 ≤ b.toNat ∧ (b.toNat : Int) ≤ len.toInt := by
  have hb : (b.zeroExtend 64).toInt = b.toNat := BitVec.toInt_setWidth'_of_lt (by decide)
  rw [(rvalue_index_correct _ len hlen).1, hb]; omega

/-- DDP's documented clamping of a slice bound into `lo … hi` -/
def clampZ (i lo hi : Int) : Int := let t := if i < lo then lo else i; if t > hi then hi else t

/-- (the same function as `TextRT.clampI`) -/
theorem clampZ_range (i : Int) {n : Int} (hn : 0 < n) : 1 ≤ clampZ i 1 n ∧ clampZ i 1 n ≤ n :=
  TextRT.clampI_range i hn

/-- the clamp closure as emitted, on machine integers -/
def clampBV (i len : BitVec 64) : BitVec 64 :=
  if len.slt (if i.slt 1#64 then 1#64 else i) then len else (if i.slt 1#64 then 1#64 else i)

theorem clampBV_toInt (i len : BitVec 64) : (clampBV i len).toInt = clampZ i.toInt 1 len.toInt := by
  simp only [clampBV, clampZ, apply_ite BitVec.toInt, BitVec.slt_iff_toInt_lt, toInt_one, gt_iff_lt]

theorem slice_unfold (i1 i2 len : BitVec 64) :
    listSliceFacts.eval i1 i2 len =
      if len.sle 0#64 then .empty
      else if (clampBV i2 len).slt (clampBV i1 len) then .error
      else .copy (clampBV i1 len - 1#64) (clampBV i2 len - 1#64 - (clampBV i1 len - 1#64) + 1#64) := by
  simp [listSliceFacts, SliceFacts.eval, SliceFacts.applyClamp, SliceFacts.applySub, SliceFacts.clamp,
    TernaryFact.eval, ICmpFact.eval, Opnd.eval, IPred.eval, envSet]
  rfl

/-- for `1 ≤ a ≤ b` no step of `(b - 1) - (a - 1) + 1` wraps -/
theorem span_toInt {a b : BitVec 64} (ha : 1 ≤ a.toInt) (hab : a.toInt ≤ b.toInt) :
    (a - 1#64).toInt = a.toInt - 1 ∧ (b - 1#64 - (a - 1#64) + 1#64).toInt = b.toInt - a.toInt + 1 := by
  have := b.toInt_lt
  have e1 := toInt_sub_one (x := a) (by omega)
  have e2 := toInt_sub_one (x := b) (by omega)
  have e3 : (b - 1#64 - (a - 1#64)).toInt = b.toInt - a.toInt := by
    rw [toInt_sub_of_range] <;> rw [e1, e2] <;> omega
  refine ⟨e1, ?_⟩
  rw [toInt_add_of_range] <;> rw [e3, toInt_one] <;> omega

/-- **List slices** (`im Bereich von … bis …`, `ab dem …`, `bis zum …` all call the generated
`ddp_x_slice`): empty list → empty result; otherwise both bounds are clamped into
`1 … length`; crossed bounds (after clamping) → Laufzeitfehler; else exactly the elements
`a … b` are copied — `b - a + 1` elements starting at 0-based `a - 1`, all inside the list. -/
theorem slice_correct (i1 i2 len : BitVec 64) (hlen : 0 ≤ len.toInt) :
    match listSliceFacts.eval i1 i2 len with
    | .empty => len.toInt = 0
    | .error => 0 < len.toInt ∧ clampZ i2.toInt 1 len.toInt < clampZ i1.toInt 1 len.toInt
    | .copy first count =>
      0 < len.toInt ∧ clampZ i1.toInt 1 len.toInt ≤ clampZ i2.toInt 1 len.toInt ∧
      first.toInt = clampZ i1.toInt 1 len.toInt - 1 ∧
      count.toInt = clampZ i2.toInt 1 len.toInt - clampZ i1.toInt 1 len.toInt + 1 ∧
      0 ≤ first.toInt ∧ first.toInt + count.toInt ≤ len.toInt := by
  rw [slice_unfold, ← clampBV_toInt, ← clampBV_toInt]
  by_cases he : len.sle 0#64 = true
  · rw [if_pos he]
    rw [BitVec.sle_iff_toInt_le, BitVec.toInt_zero] at he
    exact Int.le_antisymm he hlen
  rw [if_neg he]
  rw [BitVec.sle_iff_toInt_le, BitVec.toInt_zero, Int.not_le] at he
  have ha1 := (clampZ_range i1.toInt he).1
  have hb2 := (clampZ_range i2.toInt he).2
  rw [← clampBV_toInt] at ha1 hb2
  generalize clampBV i1 len = a at *
  generalize clampBV i2 len = b at *
  by_cases hc : b.slt a = true
  · rw [if_pos hc]
    exact ⟨he, BitVec.slt_iff_toInt_lt.mp hc⟩
  · rw [if_neg hc]
    rw [BitVec.slt_iff_toInt_lt, Int.not_lt] at hc
    have ⟨e1, e2⟩ := span_toInt ha1 hc
    exact ⟨he, hc, e1, e2, by omega, by omega⟩

open DDP.TextRT DDP.Utf8

/-- `Text an der Stelle i` errors exactly outside `1 … length` (code points), for every
integer index (what it yields inside: `C12.index_spec`) -/
theorem text_index_correct (cps : List Nat) (h : WfCps cps) (i : Int) :
    (index (TextRT.repr cps) i = .err ↔ ¬ (1 ≤ i ∧ i ≤ cps.length)) := by
  rw [C12.index_spec cps h i]
  split
  · rename_i hr
    rw [List.getElem?_eq_getElem (by omega)]
    simp [hr]
  · simp [*]

/-- replacing a code point errors exactly outside `1 … length` -/
theorem text_replace_correct (cps : List Nat) (h : WfCps cps) (c : Nat) (hs : isScalar c = true) (h0 : c ≠ 0)
    (i : Int) : (replaceChar (TextRT.repr cps) (c : Int) i = .err ↔ ¬ (1 ≤ i ∧ i ≤ cps.length)) := by
  rw [C12.replace_spec cps h c hs h0 i]
  split <;> simp [*]

/-- text slices: clamped like list slices, error exactly on crossed bounds of a non-empty text -/
theorem text_slice_correct (cps : List Nat) (h : WfCps cps) (i j : Int) :
    (slice (TextRT.repr cps) i j = .err ↔
      (cps ≠ [] ∧ clampI j 1 cps.length < clampI i 1 cps.length)) := by
  rw [C12.slice_spec cps h i j]
  cases cps with
  | nil => simp
  | cons c cs =>
    simp only [List.isEmpty_cons, Bool.false_eq_true, if_false, ne_eq, reduceCtorEq, not_false_eq_true, true_and]
    split <;> simp_all

end DDP.C06
