import Props.C13
import DDP.Impl.Generics
import Props.C10
import Props.C09
import Props.C01

/-!
# C03 — the front end is total (the parts of totality that are logic)

The recursive-descent parser, resolver and type checker as a whole (mutually recursive Go methods over
a shared cursor with back-tracking) have no Lean model; for them the claim "returns" is carried by
the crash probe of `vlib/props/C03.py` only (a search, not a proof).  Proved here are the pieces of
the front end that *are* modelled: the scanner always returns and is linear in the input, the type
unifier and the initialisation walk are total functions with bounded results, and the recursion
through the sub-parsers of alias arguments is bounded by the number of tokens when every alias pattern
contains a word (and need not end without that rule: `single_parameter_alias_diverges`); of the parser
proper, the rungs of the expression ladder answer on every token sequence.
-/

namespace DDP.C03
open DDP.Scanner

/-- the scanner returns on every source text (also unterminated texts, characters, comments, alias
placeholders) -/
theorem scanner_returns (m : Mode) (origin : Pos) (indent : Nat) (src : List Char) :
    ∃ r, scan m origin indent src = some r := scan_total m origin indent src

theorem coveredBy_length (segs : List Seg) (h : ∀ sg ∈ segs, sg.body ≠ []) : segs.length ≤ (coveredBy segs).length := by
  induction segs with
  | nil => simp
  | cons sg r ih =>
    obtain ⟨hb, hr⟩ := List.forall_mem_cons.1 h
    have := List.length_pos_iff.mpr hb
    have := ih hr
    simp only [coveredBy, List.length_cons, List.length_append]
    omega

/-- and never yields more tokens than the source has code points (plus the end-of-file token) -/
theorem token_count_bounded (m : Mode) (origin : Pos) (indent : Nat) (src : List Char) (r : Result)
    (h : scan m origin indent src = some r) : r.tokens.length ≤ src.length + 1 := by
  obtain ⟨hcov, hseg, _⟩ := scan_partition m origin indent src r h
  have := coveredBy_length r.segs (fun sg hsg => (hseg sg hsg).2)
  have hl : (coveredBy r.segs ++ r.trailing).length = src.length := by rw [hcov]
  simp only [List.length_append] at hl
  simp only [Result.tokens, List.length_append, List.length_map, List.length_singleton]
  omega

/-- unification never invents bindings: one step (`bindOrLookup`) leaves at most one binding more than it found -/
theorem bindOrLookup_grows_by_one (σ : DDP.Generics.Bindings) (n : Nat) (arg : DDP.Generics.Ty) :
    (DDP.Generics.bindOrLookup σ n arg).2.length ≤ σ.length + 1 := by
  unfold DDP.Generics.bindOrLookup
  split <;> simp

/-- the initialisation walk visits a finite list: in a ranked import graph a visit of `m` adds only modules numbered up
to `m` -/
theorem init_walk_bounded (g : DDP.Modules.Graph) (hr : DDP.Modules.Ranked g) (fuel m : Nat) (done : List Nat) :
    ∀ x ∈ DDP.Modules.visit g fuel m done, x ∈ done ∨ x ≤ m := DDP.Modules.visit_bound g hr fuel m done

/-! ### the recursion through argument sub-parsers (`parser.checkAlias`) -/

section
open DDP.AliasMatch

theorem sumSome_isSome (l : List (Option Nat)) (h : ∀ o ∈ l, o.isSome = true) : (sumSome l).isSome = true := by
  induction l with
  | nil => rfl
  | cons o l ih =>
    obtain ⟨n, rfl⟩ := Option.isSome_iff_exists.mp (h o (by simp))
    obtain ⟨m, hm⟩ := Option.isSome_iff_exists.mp (ih fun o' ho' => h o' (by simp [ho']))
    simp [sumSome, hm]

/-- **Nested alias calls terminate.**  If every declared pattern contains a word, the recursion
through argument sub-parsers needs no more stack than there are tokens: with fuel above the
number of tokens it always returns. -/
theorem nested_alias_parsing_terminates (pats : List (List Pat)) (hw : ∀ p ∈ pats, 0 < wordCount p) :
    ∀ (f : Nat) (ts : List AliasMatch.Tok), ts.length < f → (parseToks pats f ts).isSome = true := by
  intro f
  induction f with
  | zero => intro ts h; omega
  | succ f ih =>
    intro ts h
    cases ts with
    | nil => simp [parseToks]
    | cons t r =>
      simp only [parseToks]
      cases hm : firstMatch pats (t :: r) with
      | none => exact ih r (by simp at h; omega)
      | some res =>
        obtain ⟨bs, rest⟩ := res
        obtain ⟨p, hp, hmp⟩ := List.exists_of_findSome?_eq_some hm
        obtain ⟨hrest, hargs⟩ := (matchPat_iff.mp hmp).shorter (hw p hp)
        obtain ⟨a, ha⟩ := Option.isSome_iff_exists.mp <|
          sumSome_isSome (bs.map fun b => parseToks pats f b.2) fun o ho => by
            obtain ⟨b, hb, rfl⟩ := List.mem_map.mp ho
            exact ih _ (by have := hargs b hb; omega)
        obtain ⟨n, hn⟩ := Option.isSome_iff_exists.mp (ih rest (by omega))
        simp [ha, hn]

/-- **Without that rule they need not.**  The alias `"<x>"` (a pattern without a word, accepted until
fix 130575b) matches its own argument again: no amount of stack suffices.
This is the unrecoverable stack overflow `KNOWN_SEEDS/single-parameter-alias` of the probe. -/
theorem single_parameter_alias_diverges (f : Nat) :
    parseToks [[.param 1]] f [⟨.num, 7⟩] = none := by
  induction f with
  | zero => rfl
  | succ f ih =>
    simp only [parseToks]
    have : firstMatch [[Pat.param 1]] [⟨.num, 7⟩] = some ([(1, [⟨.num, 7⟩])], []) := by decide
    simp [this, sumSome, ih]

/-- non-vacuity: a pattern set with words, a nested call, and the count of sub-parsers started -/
example :
    let w (i : Nat) : AliasMatch.Tok := ⟨.num, i⟩
    let lp : AliasMatch.Tok := ⟨.lparen, 0⟩; let rp : AliasMatch.Tok := ⟨.rparen, 0⟩; let dot : AliasMatch.Tok := ⟨.other, 9⟩
    let pats := [[Pat.word (w 1), .param 10, .word ⟨.other, 2⟩, .param 11], [Pat.word (w 3), .param 10]]
    parseToks pats 12 [w 1, ⟨.negate, 0⟩, w 30, ⟨.other, 2⟩, lp, w 3, lp, w 31, rp, rp, dot] = some 3 := by decide

end

/-! ### the expression ladder

`ifExpression`, `boolXOR`, the ten chain rungs, `unary` and `primary` of `src/parser/expressions.go` as modelled by `DDP.LadderParse` (shape and
operator table regenerated from the source, tied to the real parser by `vlib/laddercorr.py`): the Go functions recurse
without any counter; the model carries fuel only to be a structural recursion. These theorems say the fuel is idle. -/

open DDP.LadderParse

/-- every rung that delivers an operand has consumed at least one token, so the `for` loops of the chain rungs make
progress (the `parse` part of `progress`, which says the same of `ifExpression` and `boolXOR`) -/
theorem ladder_rungs_consume (f k : Nat) (ts : List DDP.LadderParse.Tok) (x : DDP.LadderParse.E × List DDP.LadderParse.Tok)
    (h : parse DDP.Ladder.ddpTbl f k ts = some x) : x.2.length < ts.length :=
  parse_progress h

/-- **The expression ladder terminates on every token sequence**, well-formed or not: with `|ts|·15 + 11 − k` units of fuel
rung `k` has answered, and no larger amount changes the answer — acceptance *and* rejection are decided, never cut off -/
theorem expression_ladder_terminates (k : Nat) (ts : List DDP.LadderParse.Tok) (f : Nat) (hf : ts.length * 15 + (11 - k) ≤ f) :
    parse DDP.Ladder.ddpTbl f k ts = parse DDP.Ladder.ddpTbl (ts.length * 15 + (11 - k)) k ts := by
  have h := fuel_irrelevant DDP.Ladder.ddpTbl k ts f
  rw [bound, DDP.Ladder.chain_table_from_source.1] at h
  exact h hf

open DDP.LadderParse in
/-- non-vacuity: an ill-formed sequence is rejected with the bound's fuel (not for lack of it: `fuel_irrelevant`), a
well-formed one accepted -/
example : parse DDP.Ladder.ddpTbl (2 * 15 + 11) 0 [DDP.LadderParse.Tok.atom 1, DDP.LadderParse.Tok.bop 5] = none ∧
    parse DDP.Ladder.ddpTbl (3 * 15 + 11) 0 [DDP.LadderParse.Tok.atom 1, DDP.LadderParse.Tok.bop 5, DDP.LadderParse.Tok.atom 2] = some (DDP.LadderParse.E.bin 5 (DDP.LadderParse.E.atom 1) (DDP.LadderParse.E.atom 2), []) := by
  rw [DDP.Ladder.ddpTbl_eq]; decide +kernel

end DDP.C03
