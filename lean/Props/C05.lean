import DDP.Impl.Ledger
import DDP.Proofs.Own

/-!
# C05 — compiled programs release every heap block exactly once

What the ledger's verdict means.  A compiled program is linked against the C ledger, its trace is
re-judged by this model on every run (`vlib/props/C05.py`), and then: an accepted trace with no live
block at the end is a run in which every block obtained was released exactly once, every resize and
release stated the true size, and nothing that was not owned was released.
-/

namespace DDP.Ledger

def count (f : Call → Bool) (t : List Call) : Nat := (t.filter f).length

theorem count_cons (f : Call → Bool) (c : Call) (t : List Call) : count f (c :: t) = (if f c then 1 else 0) + count f t := by
  unfold count; rw [List.filter_cons]; split <;> simp [Nat.add_comm]

theorem sizeOf_remove_self (l : Live) (p : Nat) : sizeOf? (remove l p) p = none := by
  simp [sizeOf?, remove]

/-- releasing what is not owned (never obtained, or already given up) is refused -/
theorem foreign_refused (l : Live) (c : Call) (hp : c.ptr ≠ 0) (h : sizeOf? l c.ptr = none) : step l c = .error "not-live" := by
  simp [step, hp, h]

def kept (l : Live) (c : Call) : Live := if c.releases then remove l c.ptr else l

/-- An accepted call gives up a block (`releases`) or not, then obtains one (`acquires`) or not — the order in which
`rtharness/ledger.c` does it; a block given up was live with the size stated, a block obtained is not among those kept.
Every theorem below reads `step` through this. -/
theorem step_ok {l l' : Live} {c : Call} (h : step l c = .ok l') :
    l' = (if c.acquires then [(c.result, c.new)] else []) ++ kept l c ∧
      (c.ptr ≠ 0 → sizeOf? l c.ptr = some c.old) ∧ (c.acquires = true → sizeOf? (kept l c) c.result = none) := by
  unfold kept Call.acquires Call.releases
  revert h
  fun_cases step l c <;> rintro ⟨⟩ <;> simp_all

/-- a released block cannot be released (or resized) again: the second call is refused -/
theorem no_double_release (l l' : Live) (c : Call) (hp : c.ptr ≠ 0) (hn : c.new = 0) (h : step l c = .ok l') :
    ∀ c2 : Call, c2.ptr = c.ptr → step l' c2 = .error "not-live" := by
  intro c2 h2
  have e : l' = remove l c.ptr := by simpa [kept, Call.acquires, Call.releases, hp, hn] using (step_ok h).1
  exact foreign_refused l' c2 (h2 ▸ hp) (by rw [h2, e, sizeOf_remove_self])

/-- a release or resize is accepted only with the size the block really has -/
theorem sizes_true (l l' : Live) (c : Call) (hp : c.ptr ≠ 0) (h : step l c = .ok l') : sizeOf? l c.ptr = some c.old :=
  (step_ok h).2.1 hp

/-- the live blocks never contain one address twice -/
def Distinct (l : Live) : Prop := (l.map (·.1)).Nodup

theorem remove_distinct (l : Live) (p : Nat) (h : Distinct l) : Distinct (remove l p) :=
  List.Nodup.sublist (List.Sublist.map _ List.filter_sublist) h

theorem sizeOf_none_not_mem (l : Live) (p : Nat) (h : sizeOf? l p = none) : p ∉ l.map (·.1) := by
  simp only [sizeOf?, Option.map_eq_none_iff, List.find?_eq_none] at h
  intro hm
  obtain ⟨x, hx, rfl⟩ := List.mem_map.mp hm
  simpa using h x hx

theorem kept_distinct {l : Live} (c : Call) (hd : Distinct l) : Distinct (kept l c) := by
  unfold kept; split
  · exact remove_distinct l c.ptr hd
  · exact hd

theorem step_distinct (l l' : Live) (c : Call) (hd : Distinct l) (h : step l c = .ok l') : Distinct l' := by
  obtain ⟨rfl, -, hf⟩ := step_ok h
  split
  · next ha => exact List.nodup_cons.mpr ⟨sizeOf_none_not_mem _ _ (hf ha), kept_distinct c hd⟩
  · exact kept_distinct c hd

theorem length_remove (l : Live) (p s : Nat) (hd : Distinct l) (h : sizeOf? l p = some s) : (remove l p).length + 1 = l.length := by
  induction l with
  | nil => simp [sizeOf?] at h
  | cons x r ih =>
    have hd' : x.1 ∉ r.map (·.1) ∧ Distinct r := List.nodup_cons.mp hd
    by_cases hx : x.1 = p
    · -- x is the block; it is not in the rest
      have : remove r p = r := List.filter_eq_self.mpr fun y hy => by
        simpa using fun e : y.1 = p => hd'.1 (hx ▸ e ▸ List.mem_map_of_mem hy)
      simp [remove, hx, show List.filter (fun b => b.1 != p) r = r from this]
    · have := ih hd'.2 (by simpa [sizeOf?, List.find?_cons, hx] using h)
      simp [remove, hx] at this ⊢
      omega

/-- **bookkeeping**: along an accepted trace, blocks live = blocks obtained − blocks given up -/
theorem balance (t : List Call) : ∀ (l lf : Live) (i j : Nat), Distinct l → run l t i = (j, .ok lf) →
    lf.length + count Call.releases t = l.length + count Call.acquires t := by
  induction t with
  | nil =>
    intro l lf i j _ h
    cases h; rfl
  | cons c r ih =>
    intro l lf i j hd h
    unfold run at h
    cases hs : step l c with
    | error k => simp [hs] at h
    | ok l' =>
      rw [hs] at h
      have := ih l' lf (i + 1) j (step_distinct l l' c hd hs) h
      obtain ⟨rfl, hsz, -⟩ := step_ok hs
      have hk : (kept l c).length + (if c.releases then 1 else 0) = l.length := by
        unfold kept; split
        · next hr =>
          have hp : c.ptr ≠ 0 := by intro e; simp [Call.releases, e] at hr
          exact length_remove l c.ptr c.old hd (hsz hp)
        · rfl
      have ha : ((if c.acquires then [(c.result, c.new)] else []) ++ kept l c).length =
          (if c.acquires then 1 else 0) + (kept l c).length := by split <;> simp [Nat.add_comm]
      rw [count_cons, count_cons]
      omega

/-- **every block exactly once**: a trace that is accepted from the empty heap and ends with no live
block obtained exactly as many blocks as it gave up — and by `no_double_release`, `sizes_true`,
`foreign_refused` each release was of a live block with its true size -/
theorem exactly_once (t : List Call) (j : Nat) (h : run [] t 0 = (j, .ok [])) :
    count Call.acquires t = count Call.releases t := by
  have := balance t [] [] 0 j (by simp [Distinct]) h
  simpa using this.symm

/-- non-vacuity: allocate, grow, release is accepted and balanced; releasing twice is not -/
example : (run [] [⟨0, 0, 8, 100⟩, ⟨100, 8, 16, 200⟩, ⟨200, 16, 0, 0⟩] 0).2 matches .ok [] := by decide
example : (run [] [⟨0, 0, 8, 100⟩, ⟨100, 8, 0, 0⟩, ⟨100, 8, 0, 0⟩] 0).1 = 2 := by decide

end DDP.Ledger


/-! ## The code generator's ownership bookkeeping (model `DDP.Own`, tied to `src/compiler` by `vlib/ownmodel.py`)

"Released exactly once, on every control-flow path" for the bookkeeping itself (`claimOrCopy`, temporaries, scope exit,
`exitNestedScopes` on leaving / continuing a loop, the releases in front of a return, sub-scopes of short-circuited
operands), for every well-scoped function body of the modelled fragment and every sequence of branch decisions; the
runtime functions behind the calls are the subject of the ledger theorems above and of C12/C17. -/

namespace DDP.Own

theorem inv_start : Inv { next := 2, cur := { vars := [paramSlot] }, outer := [] } [paramSlot] :=
  ⟨invT_iff.mpr ⟨.refl _, List.nodup_cons.mpr ⟨nofun, .nil⟩⟩,
   fun x hx => by cases List.mem_singleton.mp hx; exact ⟨Nat.zero_lt_one, Nat.lt_succ_self 1⟩, Nat.zero_lt_two⟩

/-- **every path of every function body**: no double release, no use after release, no release of something never
obtained, no overwritten owner — and at the end nothing is owned but the returned value (`[retSlot]`), or nothing at all
when the body ends without a return -/
theorem fn_balanced (body : Blk) (hw : wfB body 1 false = true) (fuel : Nat) (path : List Bool) :
    match run fuel (compileFn body) path [paramSlot] with
    | .ret own => own = [retSlot] ∨ own = []
    | .timeout => True
    | _ => False := by
  have key : Sat (fun _ => False) (fun _ => False) (fun own => own = [retSlot] ∨ own = [])
      (run fuel (compileFn body) path [paramSlot]) := by
    have hs := compileStmts_sat body ({ next := 2, cur := { vars := [paramSlot] }, outer := [] } : CS).push false none hw
      ⟨nofun, nofun, rfl⟩ fuel path [paramSlot] inv_start.push
    have hf := compileStmts_frame body ({ next := 2, cur := { vars := [paramSlot] }, outer := [] } : CS).push
    unfold compileFn
    dsimp only
    split
    · next hret => exact hs.mono (fun _ h => Bool.noConfusion (hret.symm.trans h.1)) (fun _ ⟨_, e, _⟩ => nomatch e) (fun _ => Or.inl)
    · refine sat_seq (hs.mono (fun _ h => h.2) (fun _ ⟨_, e, _⟩ => nomatch e) (fun _ => Or.inl)) fun own1 _ h1 => ?_
      -- both scopes of the function are left; then nothing is registered any more
      obtain ⟨o1, ho1, h2⟩ := h1.exit
      obtain ⟨o2, ho2, h3⟩ := h2.exit
      rw [pop_eq hf.outer hf.loops] at h3
      exact sat_seq (M := fun own => own = []) (sat_ofList (runIns_append ho1 ▸ ho2) h3.perm.eq_nil)
        fun _ _ h => sat_ret (Or.inr h)
  generalize run fuel (compileFn body) path [paramSlot] = o at key
  cases o <;> exact key

/-- in particular the abstract machine never reports an ownership error -/
theorem fn_no_ownership_error (body : Blk) (hw : wfB body 1 false = true) (fuel : Nat) (path : List Bool) (w : String) :
    run fuel (compileFn body) path [paramSlot] ≠ .err w := by
  intro h
  have := fn_balanced body hw fuel path
  rw [h] at this
  exact this

/-- evaluating an expression releases nothing that was owned before, and its value is owned afterwards — by the
temporaries of the current scope when `latestIsTemp` says so -/
theorem expression_keeps_owners (e : Ex) (cs : CS) (own : List Slot) (h : Inv cs own) (hw : wfE e cs.visible.length = true) :
    ∃ own', runIns (compileE e cs).code own = some own' ∧ (∀ x, x ∈ own → x ∈ own') ∧ (compileE e cs).slot ∈ own' ∧
      ((compileE e cs).isTemp = true → (compileE e cs).slot ∈ (compileE e cs).cs.cur.temps) := by
  obtain ⟨own', hok⟩ := compileE_ok e cs own h hw
  exact ⟨own', hok.run, hok.keep, hok.slot, fun ht => (hok.temp ht).1⟩

/-- a condition — with Text operands and short-circuited right operands — leaves the heap as the compile-time state
says, whichever branch was taken: the temporaries of a skipped operand are neither released nor leaked -/
theorem short_circuit_balanced (c : Cond) (cs : CS) (own : List Slot) (fuel : Nat) (path : List Bool) (h : Inv cs own)
    (hw : wfC c cs.visible.length = true) :
    match run fuel (compileC c cs).1 path own with
    | .normal own' _ => Inv (compileC c cs).2 own'
    | .timeout => True
    | _ => False := by
  have key := compileC_ok (J := fun _ => False) (R := fun _ => False) c cs hw fuel path own h
  generalize run fuel (compileC c cs).1 path own = o at key
  cases o <;> exact key

/-- `Verlasse die Schleife` / `Fahre mit der Schleife fort`: exactly the scopes opened since the loop body began are released -/
theorem leaving_a_loop_releases_the_body (cs : CS) (own : List Slot) (h : Inv cs own) (d : Nat) (r : List Nat)
    (hl : cs.loops = d :: r) (hd : 1 ≤ d) :
    ∃ o, runIns cs.loopFrees own = some o ∧ InvT (cs.outer.drop (d - 1)) o :=
  loop_frees h hl hd

/-- `Gib … zurück`: once the value is in the out-pointer, everything else the function owns is released -/
theorem return_releases_everything (cs : CS) (o : List Slot) (h : Inv cs o) :
    runIns cs.returnFrees (retSlot :: o) = some [retSlot] := ret_frees h

/-- compile-time state after any statement: the enclosing scopes and the loop nesting are as before -/
theorem statement_keeps_outer_scopes (s : St) (cs : CS) :
    (compileS s cs).2.outer = cs.outer ∧ (compileS s cs).2.loops = cs.loops :=
  ⟨(compileS_frame s cs).1.outer, (compileS_frame s cs).1.loops⟩

/-! non-vacuity: a body with a loop, a call, a conditional `Verlasse die Schleife` and an assignment is well-scoped,
so the hypothesis of `fn_balanced` is met by it (its compiled code is run on all paths of a few decisions by `ddpmodel own`, see the evidence) -/
def sample : Blk :=
  .cons (.while (.eq (.var 0) .lit)
    (.cons (.decl (.call 1 (.var 0)))
      (.cons (.ite (.and .prim (.eq (.var 0) .lit)) (.cons .brk .nil) (.cons (.assign 1 (.concat (.var 0) (.var 1))) .nil)) .nil)))
    (.cons (.ret (.concat (.var 0) .lit)) .nil)

example : wfB sample 1 false = true := by decide
/-- the machine does notice a missing release and a double release -/
example : run 10 (.seq (.ins (.fromConst 2)) (.seq (.ins (.copy 0 2)) .ret)) [] [] = .ret [0, 2] := by simp [run, step]
example : run 10 (.seq (.ins (.fromConst 2)) (.seq (.ins (.free 2)) (.ins (.free 2)))) [] [] = .err (reprStr (Ins.free 2)) := by simp [run, step]

end DDP.Own
