import DDP.Proofs.Trie
import DDP.Impl.TokenKey
import DDP.Generated.Keywords

/-!
# C20 — duplicate aliases are always rejected; declared aliases stay callable

Theorems over the L1 models of `ordered_map.go`, `alias_trie/trie.go` (generic in the two
key predicates) and of `tokenEqual`/`tokenLess`.  All statements quantify over every
sequence of insertions in every order.
-/

namespace DDP.C20
open DDP.OMap DDP.Trie DDP.TokenKey

theorem foldl_read_write {S K V : Type} {I : S → Prop} {write : S → K → V → S} {read : S → K → Option V}
    {e : K → K → Bool} (hI : ∀ s, I s → ∀ k v, I (write s k v))
    (hrw : ∀ s, I s → ∀ k v k', read (write s k v) k' = if e k k' then some v else read s k')
    (ops : List (K × V)) (s : S) (hs : I s) :
    I (ops.foldl (fun s op => write s op.1 op.2) s) ∧
      ∀ k, read (ops.foldl (fun s op => write s op.1 op.2) s) k =
        ((ops.reverse.find? fun op => e op.1 k).map (·.2)).or (read s k) := by
  induction ops generalizing s with
  | nil => exact ⟨hs, fun k => by simp⟩
  | cons op rest ih =>
    obtain ⟨h1, h2⟩ := ih (write s op.1 op.2) (hI s hs op.1 op.2)
    refine ⟨h1, fun k => ?_⟩
    rw [List.foldl_cons, h2, hrw s hs op.1 op.2 k, List.reverse_cons, List.find?_append]
    cases rest.reverse.find? (fun op => e op.1 k) with
    | some o => rfl
    | none => cases h : e op.1 k <;> simp [h]

variable {K V : Type} {eq less : K → K → Bool}

/-- the map built by a sequence of `Set` calls -/
def runSets (eq less : K → K → Bool) (ops : List (K × V)) : List (K × V) :=
  ops.foldl (fun m op => OMap.set eq less m op.1 op.2) []

/-- Refinement: under `Compat`, after *any* sequence of `Set`s (any keys, any order) the
sorted-slice map is sorted and `Get k` returns the value of the latest `Set` whose key is
`eq` to `k` — the behaviour of a plain association list. -/
theorem omap_refines (hc : Compat eq less) (ops : List (K × V)) :
    Sorted less (runSets eq less ops) ∧
    ∀ k, OMap.get eq less (runSets eq less ops) k = (ops.reverse.find? (fun op => eq op.1 k)).map (·.2) := by
  obtain ⟨h1, h2⟩ := foldl_read_write (set_sorted hc) (get_set hc) ops [] List.Pairwise.nil
  exact ⟨h1, fun k => (h2 k).trans Option.or_none⟩

/-- the alias trie built by a sequence of `Insert` calls -/
def runInserts (eq less : K → K → Bool) (ops : List (List K × V)) : Node K V :=
  ops.foldl (fun n op => insert eq less op.1 op.2 n) Node.empty

/-- Refinement for the trie: after any sequence of insertions, a pattern is found exactly
when a pattern with pointwise-`eq` tokens was inserted, and yields the latest such alias. -/
theorem trie_refines (hc : Compat eq less) (ops : List (List K × V)) (ks : List K) :
    aliasExists eq less ks (runInserts eq less ops) =
      (ops.reverse.find? (fun op => keysEq eq op.1 ks)).map (·.2) := by
  obtain ⟨-, h2⟩ := foldl_read_write (write := fun n ks v => insert eq less ks v n)
    (read := fun n ks => aliasExists eq less ks n) (insert_wf hc) (aliasExists_insert hc) ops Node.empty (WF.empty less)
  exact (h2 ks).trans (by rw [aliasExists_empty, Option.or_none])

/-- what `addAliases` does with one alias -/
def declare (eq less : K → K → Bool) (n : Node K V) (p : List K) (v : V) : Node K V × Bool :=
  match aliasExists eq less p n with
  | some _ => (n, false)
  | none => (insert eq less p v n, true)

/-- run a sequence of declarations; returns the store and, per declaration, whether it was accepted -/
def declareAll (eq less : K → K → Bool) : Node K V → List (List K × V) → Node K V × List Bool
  | n, [] => (n, [])
  | n, (p, v) :: rest =>
    let (n', ok) := declare eq less n p v
    let (n'', oks) := declareAll eq less n' rest
    (n'', ok :: oks)

theorem declare_keeps (hc : Compat eq less) {n : Node K V} (hwf : WF less n) {p : List K} {v : V}
    (h : aliasExists eq less p n = some v) (q : List K) (w : V) :
    WF less (declare eq less n q w).1 ∧ aliasExists eq less p (declare eq less n q w).1 = some v ∧
      (keysEq eq q p = true → (declare eq less n q w).2 = false) := by
  unfold declare
  cases hq : aliasExists eq less q n with
  | some u => exact ⟨hwf, h, fun _ => rfl⟩
  | none =>
    -- were `q` pointwise `eq` to `p`, looking up `q` would have found what looking up `p` finds
    have hnk : keysEq eq q p = false := Bool.eq_false_iff.mpr fun hk => by
      rw [aliasExists_congr hc n hwf q p hk, h] at hq; cases hq
    exact ⟨insert_wf hc n hwf q w, by rw [aliasExists_insert hc n hwf q w p, hnk]; exact h,
      fun hk => by rw [hnk] at hk; cases hk⟩

/-- **Duplicate rejected / stays callable.**  In any sequence of declarations starting from
any well-formed store: once a pattern is stored (`aliasExists p = some v`), every later
declaration of a pattern with pointwise-`eq` tokens is rejected, and the stored alias is
still found under its pattern after all further declarations. -/
theorem declared_stays (hc : Compat eq less) :
    ∀ (decls : List (List K × V)) (n : Node K V), WF less n → ∀ (p : List K) (v : V),
      aliasExists eq less p n = some v →
      aliasExists eq less p (declareAll eq less n decls).1 = some v ∧
      ∀ i (hi : i < decls.length), keysEq eq (decls[i]).1 p = true →
        (declareAll eq less n decls).2[i]? = some false := by
  intro decls
  induction decls with
  | nil => exact fun n _ p v h => ⟨h, fun i hi => absurd hi (Nat.not_lt_zero _)⟩
  | cons d rest ih =>
    intro n hwf p v h
    obtain ⟨hwf', h', hrej⟩ := declare_keeps hc hwf h d.1 d.2
    obtain ⟨h1, h2⟩ := ih _ hwf' p v h'
    refine ⟨h1, fun i hi hk => ?_⟩
    cases i with
    | zero => exact congrArg some (hrej hk)
    | succ i => exact h2 i (Nat.lt_of_succ_lt_succ hi) hk

/-- A freshly accepted alias is stored: after `declare` accepted `(p, v)`, `p` is found. -/
theorem accepted_is_stored (hc : Compat eq less) (n : Node K V) (hwf : WF less n) (p : List K) (v : V)
    (h : (declare eq less n p v).2 = true) :
    aliasExists eq less p (declare eq less n p v).1 = some v := by
  unfold declare at h ⊢
  cases hq : aliasExists eq less p n with
  | some u => rw [hq] at h; cases h
  | none => simp [aliasExists_insert hc n hwf p v p, keysEq_refl hc p]

/-! ### when do the real key predicates satisfy `Compat`? -/

/-- the ordinals assumed for the literal-compared token types and for ALIAS_PARAMETER are
those of the regenerated `token.TokenType` enumeration -/
theorem token_ordinals :
    (DDP.Generated.TokenType.all.idxOf .IDENTIFIER, DDP.Generated.TokenType.all.idxOf .ALIAS_PARAMETER,
     DDP.Generated.TokenType.all.idxOf .SYMBOL, DDP.Generated.TokenType.all.idxOf .INT,
     DDP.Generated.TokenType.all.idxOf .FLOAT, DDP.Generated.TokenType.all.idxOf .STRING,
     DDP.Generated.TokenType.all.idxOf .CHAR) = (2, 3, 5, 6, 7, 8, 9) := by decide +kernel

theorem compat_of_rank {K : Type} {eq less : K → K → Bool} (r : K → List Nat)
    (hl : ∀ a b, less a b = true ↔ r a < r b) (he : ∀ a b, eq a b = true ↔ r a = r b) : Compat eq less where
  irrefl a := Bool.eq_false_iff.mpr fun h => List.lt_irrefl _ ((hl a a).mp h)
  trans a b c h1 h2 := (hl a c).mpr (List.lt_trans ((hl a b).mp h1) ((hl b c).mp h2))
  eq_iff a b := Bool.eq_iff_iff.mpr <| by
    simp only [he, Bool.and_eq_true, Bool.not_eq_true', ← Bool.not_eq_true, hl]
    exact ⟨fun h => h ▸ ⟨List.lt_irrefl _, List.lt_irrefl _⟩, fun h => List.le_antisymm h.2 h.1⟩
  eq_trans a b c h1 h2 := (he a c).mpr (((he a b).mp h1).trans ((he b c).mp h2))

theorem litOrd_inj (c d : LitClass) (h : c.ord = d.ord) : c = d := by
  revert h
  cases c <;> cases d <;> decide

theorem litOrd_not_other (c : LitClass) : isOtherTy c.ord = false := by cases c <;> rfl
theorem litOrd_ne_3 (c : LitClass) : c.ord ≠ 3 := by cases c <;> decide

theorem ty_eq_cases {a b : TokKey} (h : a.ty = b.ty) :
    (∃ c x y, a = .lit c x ∧ b = .lit c y) ∨ (∃ t ha hb, a = .other t ha ∧ b = .other t hb) ∨
      ∃ r i s j, a = .param r i ∧ b = .param s j := by
  cases a <;> cases b <;> simp only [TokKey.ty] at h
  case lit.lit => cases litOrd_inj _ _ h; exact .inl ⟨_, _, _, rfl, rfl⟩
  case other.other => subst h; exact .inr (.inl ⟨_, _, _, rfl, rfl⟩)
  case param.param => exact .inr (.inr ⟨_, _, _, _, rfl, rfl⟩)
  case lit.param => exact absurd h (litOrd_ne_3 _)
  case param.lit => exact absurd h.symm (litOrd_ne_3 _)
  case lit.other _ _ _ ht => rw [← h, litOrd_not_other] at ht; cases ht
  case other.lit _ ht _ _ => rw [h, litOrd_not_other] at ht; cases ht
  case other.param _ ht _ _ | param.other _ _ _ ht => subst h; cases ht

/-- the comparison key `tokenLess` orders by, lexicographically: the type first, as `tokLess` does -/
def rank (name : Nat → Nat) (isList : Nat → Bool) (k : TokKey) : List Nat :=
  k.ty :: match k with
    | .lit _ x => [x]
    | .other _ _ => []
    | .param r i => [r.toNat, (isList i).toNat, name i]

theorem toNat_eq_toNat {p q : Bool} : p.toNat = q.toNat ↔ p = q := by cases p <;> cases q <;> decide

/-- one step of a lexicographic comparison on a Boolean component, as `tokLess` writes it -/
theorem bool_lex {p q x : Bool} {X : Prop} (hx : x = true ↔ X) :
    (if p ≠ q then (!p && q) else x) = true ↔ p.toNat < q.toNat ∨ p.toNat = q.toNat ∧ X := by
  cases p <;> cases q <;> simp [hx]

theorem tokLess_iff (name : Nat → Nat) (isList : Nat → Bool) (a b : TokKey) :
    tokLess name isList a b = true ↔ rank name isList a < rank name isList b := by
  unfold tokLess rank
  rw [List.cons_lt_cons_iff]
  by_cases h : a.ty = b.ty
  · rw [if_neg (not_not_intro h), h, or_iff_right (Nat.lt_irrefl _), and_iff_right rfl]
    rcases ty_eq_cases h with ⟨c, x, y, rfl, rfl⟩ | ⟨t, ha, hb, rfl, rfl⟩ | ⟨r, i, s, j, rfl, rfl⟩
    · simp [List.cons_lt_cons_iff]
    · simp
    · rw [List.cons_lt_cons_iff, List.cons_lt_cons_iff]
      exact bool_lex (bool_lex (by simp [List.cons_lt_cons_iff]))
  · rw [if_pos h, Nat.blt_eq, or_iff_left fun h' => h h'.1]

theorem tokEq_iff_eq (a b : TokKey) : tokEq a b = true ↔ a = b := by
  cases a <;> cases b <;> simp [tokEq]

theorem rank_inj (name : Nat → Nat) (isList : Nat → Bool)
    (hinj : ∀ i j, isList i = isList j → name i = name j → i = j) (a b : TokKey)
    (h : rank name isList a = rank name isList b) : a = b := by
  obtain ⟨hty, h⟩ := List.cons.inj h
  rcases ty_eq_cases hty with ⟨c, x, y, rfl, rfl⟩ | ⟨t, ha, hb, rfl, rfl⟩ | ⟨r, i, s, j, rfl, rfl⟩
  · cases h; rfl
  · rfl
  · simp only [List.cons.injEq, toNat_eq_toNat, and_true] at h
    rw [h.1, hinj i j h.2.1 h.2.2]

/-- **Characterisation, direction 1.**  If distinct underlying parameter types never share
both list-ness and printed name, `tokenEqual`/`tokenLess` satisfy the contract the sorted map
relies on — and then every theorem above applies to the real alias store. -/
theorem token_compat (name : Nat → Nat) (isList : Nat → Bool)
    (hinj : ∀ i j, isList i = isList j → name i = name j → i = j) :
    Compat tokEq (tokLess name isList) :=
  compat_of_rank (rank name isList) (tokLess_iff name isList) fun a b =>
    (tokEq_iff_eq a b).trans ⟨congrArg _, rank_inj name isList hinj a b⟩

theorem compat_pullback {K K' : Type} {eq less : K → K → Bool} (hc : Compat eq less) (f : K' → K) :
    Compat (fun a b => eq (f a) (f b)) (fun a b => less (f a) (f b)) :=
  ⟨fun a => hc.irrefl (f a), fun a b c => hc.trans (f a) (f b) (f c), fun a b => hc.eq_iff (f a) (f b),
   fun a b c => hc.eq_trans (f a) (f b) (f c)⟩

/-- **Type aliases are transparent.**  Whatever aliases are declared (`under` = `GetUnderlying`
on type identities), the predicates on possibly-aliased placeholder types satisfy the contract
under the same condition on the *underlying* types: an alias introduces no new key, so
`Zeige <x>` over `Absatz = Text` is the alias `Zeige <x>` over `Text`. -/
theorem token_compat_aliases (under : Nat → Nat) (name : Nat → Nat) (isList : Nat → Bool)
    (hinj : ∀ i j, isList i = isList j → name i = name j → i = j) :
    Compat (tokEqU under) (tokLessU under name isList) :=
  compat_pullback (token_compat name isList hinj) (TokKey.resolve under)

/-- an alias of a type and the type itself are the same key -/
theorem alias_same_key (under : Nat → Nat) (r : Bool) (i j : Nat) (h : under i = under j) :
    tokEqU under (.param r i) (.param r j) = true := by
  simp [tokEqU, TokKey.resolve, tokEq, h]

/-- non-vacuity and the duplicate through an alias: with `4 ↦ 3` (an alias of type 3, printed under
another name) the pattern over type 4 finds the alias stored over type 3, among siblings 1, 2, 3 -/
example :
    let under : Nat → Nat := fun i => if i = 4 then 3 else i
    let eq := tokEqU under
    let less := tokLessU under (fun i => i) (fun _ => false)
    let pat (i : Nat) : List TokKey := [.lit .identifier 7, .param false i]
    let store := runInserts eq less [(pat 1, 1), (pat 2, 2), (pat 3, 3)]
    aliasExists eq less (pat 4) store = some 3 := by decide +kernel

/-- **Characterisation, direction 2.**  Two distinct underlying types with equal list-ness
and equal printed name (e.g. same-named Kombinationen of different modules) break the contract:
as placeholders they are neither `eq` nor ordered. -/
theorem token_incompat (name : Nat → Nat) (isList : Nat → Bool) (i j : Nat) (hij : i ≠ j)
    (hl : isList i = isList j) (hn : name i = name j) : ¬ Compat tokEq (tokLess name isList) := by
  intro hc
  have h := hc.eq_iff (.param false i) (.param false j)
  simp [tokEq, tokLess, TokKey.ty, hl, hn] at h
  cases hb : (name j).blt (name j) with
  | true => rw [Nat.blt_eq] at hb; exact Nat.lt_irrefl _ hb
  | false => rw [hb] at h; simp at h; exact hij h

/-- Placeholder types with the same printed name, inserted after the literal `zeige`
(`name = const`, no lists): with three such aliases the third, with four the fourth is
inserted but can no longer be found (`Get` misses a key that is in the map), so a duplicate
of it would be accepted, and a call to it makes `Search` dereference the nil child —
`alias_trie/trie.go:115`. -/
theorem token_incompat_witness :
    let eq := tokEq
    let less := tokLess (fun _ => 0) (fun _ => false)
    let pat (i : Nat) : List TokKey := [.lit .identifier 7, .param false i]
    let store3 := runInserts eq less [(pat 1, 1), (pat 2, 2), (pat 3, 3)]
    let store4 := runInserts eq less [(pat 1, 1), (pat 2, 2), (pat 3, 3), (pat 4, 4)]
    aliasExists eq less (pat 2) store3 = some 2 ∧ aliasExists eq less (pat 3) store3 = none ∧
    searchExact eq less (pat 3) store3 [] = SearchResult.nilDeref ∧
    aliasExists eq less (pat 3) store4 = some 3 ∧ aliasExists eq less (pat 4) store4 = none ∧
    searchExact eq less (pat 4) store4 [] = SearchResult.nilDeref := by decide +kernel

/-- non-vacuity of `Compat` for the real predicates: with distinct names everything works -/
example :
    let eq := tokEq
    let less := tokLess (fun i => i) (fun _ => false)
    let pat (i : Nat) : List TokKey := [.lit .identifier 7, .param false i]
    let store := runInserts eq less [(pat 1, 1), (pat 2, 2), (pat 3, 3), (pat 4, 4)]
    aliasExists eq less (pat 4) store = some 4 ∧
    searchExact eq less (pat 4) store [] = SearchResult.values [4] := by decide +kernel

end DDP.C20
