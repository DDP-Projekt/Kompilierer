import DDP.Generated.DiagSites
import DDP.Impl.Diag

/-!
# C07 — failure is reported faithfully: flag, exit status and source ranges

About `DDP.Diag` (`DDP/Impl/Diag.lean`: the delivery wrapper of `parser.Parse`, the excerpt renderer's indexing; the
ranges of composite expressions are defined here) and, at the end, the regenerated inventory of hand-built diagnostics;
the real front end is watched against these by the monitors of `vlib/props/C07.py`.
-/

namespace DDP.Diag

theorem foldl_deliver (ds : List Diag) (b : Bool) :
    ds.foldl deliver b = (b || ds.any fun d => decide (d.level = .error)) := by
  induction ds generalizing b with
  | nil => simp
  | cons d r ih => simp [ih, deliver, Bool.or_assoc]

/-- **the module is faulty exactly when a diagnostic of level error was delivered** -/
theorem faulty_iff_error (ds : List Diag) : faultyAfter ds = true ↔ ∃ d ∈ ds, d.level = .error := by
  simp [faultyAfter, foldl_deliver]

/-- warnings alone never fail a compilation -/
theorem warnings_dont_fail (ds : List Diag) (h : ∀ d ∈ ds, d.level = .warn) : faultyAfter ds = false :=
  Bool.eq_false_iff.2 fun hf =>
    have ⟨d, hd, he⟩ := (faulty_iff_error ds).1 hf
    Level.noConfusion ((h d hd).symm.trans he)

/-- the exit status is non-zero exactly when an error was delivered … -/
theorem exit_iff_error (ds : List Diag) : exitStatus ds ≠ 0 ↔ ∃ d ∈ ds, d.level = .error := by
  unfold exitStatus
  rw [← faulty_iff_error]
  cases faultyAfter ds <;> simp

/-- … and then nothing usable is left -/
theorem no_artefact_on_failure (ds : List Diag) (d : Diag) (hd : d ∈ ds) (he : d.level = .error) : artefact ds = false := by
  unfold artefact
  rw [(faulty_iff_error ds).mpr ⟨d, hd, he⟩]
  rfl

theorem artefact_without_errors (ds : List Diag) (h : ∀ d ∈ ds, d.level = .warn) : artefact ds = true ∧ exitStatus ds = 0 := by
  simp [artefact, exitStatus, warnings_dont_fail ds h]

/-- the order of delivery does not matter for the verdict -/
theorem faulty_perm (a b : List Diag) (h : a.Perm b) : faultyAfter a = faultyAfter b := by
  simp only [faultyAfter, foldl_deliver, h.any_eq]

/-! ### a range inside the text can always be rendered -/

theorem slice?_eq_some {l : List Char} {a b : Nat} (h1 : a ≤ b) (h2 : b ≤ l.length) :
    slice? l a b = some ((l.drop a).take (b - a)) := if_pos ⟨h1, h2⟩

theorem renderLine_some (lines : List (List Char)) (r : Range) (h : inText lines r) (i : Nat)
    (h2 : i < r.stop.line) : ∃ m, renderLine lines r i = some m := by
  obtain ⟨-, -, hs3, -, hc2, -, hc4, hc5⟩ := h
  have hi : i < lines.length := Nat.lt_of_lt_of_le h2 hs3
  have hd : lines.getD i [] = lines[i] := by rw [List.getD_eq_getElem?_getD, List.getElem?_eq_getElem hi]; rfl
  -- the column bounds of `inText` speak of this line when it is the first / the last one
  have hS (e : i = r.start.line - 1) : r.start.col - 1 ≤ lines[i].length := by
    rw [← e, hd] at hc2; exact Nat.sub_le_of_le_add hc2
  have hE (e : i = r.stop.line - 1) : r.stop.col - 1 ≤ lines[i].length := by
    rw [← e, hd] at hc4; exact Nat.sub_le_of_le_add hc4
  rw [renderLine, List.getElem?_eq_getElem hi]; dsimp only
  by_cases e : i = r.start.line - 1
  · rw [if_pos e, slice?_eq_some (Nat.zero_le _) (hS e), Option.bind_some]
    by_cases e2 : r.start.line = r.stop.line
    · rw [if_pos e2, slice?_eq_some (Nat.sub_le_sub_right (hc5 e2) 1) (hE (e2 ▸ e))]; exact ⟨_, rfl⟩
    · rw [if_neg e2, slice?_eq_some (hS e) (Nat.le_refl _)]; exact ⟨_, rfl⟩
  · rw [if_neg e]
    by_cases e3 : i < r.stop.line - 1
    · rw [if_pos e3]; exact ⟨_, rfl⟩
    · have e4 : i = r.stop.line - 1 := Nat.le_antisymm (Nat.le_sub_one_of_lt h2) (Nat.not_lt.mp e3)
      rw [if_neg e3, slice?_eq_some (Nat.zero_le _) (hE e4)]; exact ⟨_, rfl⟩

theorem renderFrom_some (lines : List (List Char)) (r : Range) (h : inText lines r) (n i : Nat)
    (h2 : i + n ≤ r.stop.line) : ∃ ms, renderFrom lines r i n = some ms := by
  induction n generalizing i with
  | zero => exact ⟨[], rfl⟩
  | succ n ih =>
    obtain ⟨m, hm⟩ := renderLine_some lines r h i (by omega)
    obtain ⟨ms, hms⟩ := ih (i + 1) (by omega)
    exact ⟨m :: ms, by simp [renderFrom, hm, hms]⟩

/-- **every diagnostic whose range lies inside its file can be rendered**: none of the renderer's
slices is out of range -/
theorem render_total (lines : List (List Char)) (r : Range) (h : inText lines r) : ∃ ms, render lines r = some ms :=
  renderFrom_some lines r h _ _ (by have := h.2.1; omega)

/-- and the hypothesis is needed: an end column beyond the line breaks the renderer -/
example : render [['a', 'b']] ⟨⟨1, 1⟩, ⟨1, 9⟩⟩ = none := by decide
example : render [['a', 'b'], ['c']] ⟨⟨1, 2⟩, ⟨2, 2⟩⟩ = some [1, 1] := by decide

/-! ### ranges of composite expressions

The parser gives a composite expression the range from the start of its first operand (or its own
first token) to the end of its last one.  The monitor of `vlib/props/C07.py` checks on the real
syntax tree what is proved here of that construction. -/

def Pos.le (a b : Pos) : Prop := a.line < b.line ∨ (a.line = b.line ∧ a.col ≤ b.col)

/-- start is not behind the end -/
def Range.wf (r : Range) : Prop := Pos.le r.start r.stop
/-- `a` covers `b` -/
def Range.covers (a b : Range) : Prop := Pos.le a.start b.start ∧ Pos.le b.stop a.stop
/-- from the start of the first to the end of the last -/
def Range.span (first last : Range) : Range := ⟨first.start, last.stop⟩

theorem Pos.le_refl (a : Pos) : Pos.le a a := Or.inr ⟨rfl, Nat.le_refl _⟩
theorem Pos.le_trans {a b c : Pos} (h1 : Pos.le a b) (h2 : Pos.le b c) : Pos.le a c := by
  unfold Pos.le at *; omega
theorem Pos.le_antisymm {a b : Pos} (h1 : Pos.le a b) (h2 : Pos.le b a) : a = b := by
  obtain ⟨al, ac⟩ := a; obtain ⟨bl, bc⟩ := b
  simp only [Pos.le, Pos.mk.injEq] at *
  omega

/-- **Composite ranges are well-formed and cover their operands** when the operands are
well-formed and written in this order. -/
theorem span_wf_covers (a b : Range) (ha : a.wf) (hb : b.wf) (hord : Pos.le a.stop b.start) :
    (Range.span a b).wf ∧ (Range.span a b).covers a ∧ (Range.span a b).covers b :=
  ⟨Pos.le_trans ha (Pos.le_trans hord hb), ⟨Pos.le_refl _, Pos.le_trans hord hb⟩, ⟨Pos.le_trans ha hord, Pos.le_refl _⟩⟩

/-- taking the operands in the other order than they are written — what the parser did for `die n. Wurzel von x`
(start of `x`, end of `n`; repaired) — gives a range whose start lies behind its end, unless the second operand
starts exactly where the first one stops -/
theorem span_swapped_not_wf (a b : Range) (hb : b.wf) (hord : Pos.le a.stop b.start)
    (hne : a.stop ≠ b.stop) (ha : a.wf) : ¬ (Range.span b a).wf ∨ b.start = a.stop := by
  -- the swapped range runs from `b.start` back to `a.stop`: of the hypotheses only `hord` matters
  by_cases h : (Range.span b a).wf
  · exact .inr (Pos.le_antisymm h hord)
  · exact .inl h

example : (Range.span ⟨⟨1, 5⟩, ⟨1, 6⟩⟩ ⟨⟨1, 16⟩, ⟨1, 18⟩⟩) = ⟨⟨1, 5⟩, ⟨1, 18⟩⟩ := rfl
example : ¬ (Range.span ⟨⟨1, 16⟩, ⟨1, 18⟩⟩ ⟨⟨1, 5⟩, ⟨1, 6⟩⟩).wf := by
  unfold Range.wf Range.span Pos.le; simp

end DDP.Diag


/-! ## Every diagnostic that can be delivered has a level (over the inventory regenerated from the source)

`ddperror.New` takes the level as an argument. A diagnostic value built by hand as `ddperror.Error{…}` without a `Level`
has level 0 (`LEVEL_INVALID`): the handlers print it like an error, but the parser's flag — and with it `Faulty` and the
exit status — only reacts to `LEVEL_ERROR`. -/

namespace DDP.DiagLevels
open DDP.Generated.DiagSites

/-- every hand-built diagnostic sets its level, unless it is only the payload of a `Bad…` syntax node (those are kept
in the tree; what is delivered for them goes through `ddperror.New`) -/
theorem hand_built_diagnostics_have_a_level :
    errorLiterals.all (fun s => s.fields.contains "Level" || s.badNodePayload) = true := by decide +kernel

/-- the constructor itself sets all five fields -/
theorem constructor_sets_level :
    (errorLiterals.filter (fun s => s.func == "New")).map (·.fields) = [["Code", "File", "Level", "Msg", "Range"]] := by decide +kernel

end DDP.DiagLevels
