import DDP.Impl.Order

/-!
# C16 — compilation is repeatable

Theorems about every order in which the Go runtime may hand out map entries (all
permutations), plus the regenerated inventory of order-sensitive sites.
-/

namespace DDP.C16
open DDP.Order DDP.Generated DDP.Scanner

/-- **Any correct sort of any permutation gives one result**: it does not matter in which order the
map was iterated before sorting, nor that `sort.Slice` is unstable.  (Asymmetry of `less` need not
be assumed: a list holding a pair that is `less` both ways is not `SortedBy less`.) -/
theorem sort_unique {α} (less : α → α → Bool) (l₁ l₂ : List α)
    (total : ∀ a ∈ l₁, ∀ b ∈ l₁, a ≠ b → less a b = true ∨ less b a = true)
    (h₁ : SortedBy less l₁) (h₂ : SortedBy less l₂) (hp : l₁.Perm l₂) : l₁ = l₂ := by
  apply List.Perm.eq_of_pairwise (le := fun a b => less b a = false) _ h₁ h₂ hp
  intro a b ha hb hab hba
  apply Classical.byContradiction
  intro hne
  have hb' : b ∈ l₁ := hp.symm.subset hb
  rcases total a ha b hb' hne with h | h
  · rw [h] at hba; cases hba
  · rw [h] at hab; cases hab

theorem posBefore_iff (p q : Pos) :
    posBefore p q = true ↔ p.line < q.line ∨ (p.line = q.line ∧ p.col < q.col) := by
  simp [posBefore]

/-- the position order of the repaired comparator: irreflexive, asymmetric, total on distinct positions -/
theorem posBefore_irrefl (p : Pos) : posBefore p p = false :=
  Bool.eq_false_iff.2 (by rw [Ne, posBefore_iff]; omega)

theorem posBefore_asymm (p q : Pos) (h : posBefore p q = true) : posBefore q p = false :=
  Bool.eq_false_iff.2 (by rw [posBefore_iff] at h; rw [Ne, posBefore_iff]; omega)

theorem posBefore_total (p q : Pos) (h : p ≠ q) : posBefore p q = true ∨ posBefore q p = true := by
  obtain ⟨pl, pc⟩ := p; obtain ⟨ql, qc⟩ := q
  simp only [ne_eq, Pos.mk.injEq, posBefore_iff] at h ⊢
  omega

/-- **Imported declarations**: the declarations of one module start at pairwise different
positions; whatever order the map `PublicDecls` was iterated in, sorting by start position
yields one and the same list (hence one insertion order, one first name clash, …). -/
theorem imported_decl_order_unique {α} (start : α → Pos) (l₁ l₂ : List α)
    (distinct : ∀ a ∈ l₁, ∀ b ∈ l₁, a ≠ b → start a ≠ start b)
    (h₁ : SortedBy (fun a b => posBefore (start a) (start b)) l₁)
    (h₂ : SortedBy (fun a b => posBefore (start a) (start b)) l₂) (hp : l₁.Perm l₂) : l₁ = l₂ :=
  sort_unique _ l₁ l₂ (fun a ha b hb hne => posBefore_total _ _ (distinct a ha b hb hne)) h₁ h₂ hp

/-- the comparator before the repair 340540c (`Line < || Column <`) is not even asymmetric:
with a declaration at 1:31 and one at 2:1 each is "less" than the other, so the result of the
sort depended on the map order it started from -/
theorem old_comparator_not_asymmetric :
    posBeforeOld ⟨1, 31⟩ ⟨2, 1⟩ = true ∧ posBeforeOld ⟨2, 1⟩ ⟨1, 31⟩ = true := by decide

/-- if at most one entry can fail, the delivered diagnostic does not depend on the order -/
theorem first_error_perm_invariant {α ε} (check : α → Option ε) (l₁ l₂ : List α) (hp : l₁.Perm l₂)
    (atMostOne : ∀ a ∈ l₁, ∀ b ∈ l₁, (check a).isSome → (check b).isSome → a = b) :
    firstError check l₁ = firstError check l₂ := by
  unfold firstError
  cases h₁ : l₁.findSome? check with
  | none =>
    exact (List.findSome?_eq_none_iff.mpr fun a ha => List.findSome?_eq_none_iff.mp h₁ a (hp.symm.subset ha)).symm
  | some e =>
    -- either result is what `check` says of some failing entry, and these are one and the same entry
    obtain ⟨a, ha, hae⟩ := List.exists_of_findSome?_eq_some h₁
    cases h₂ : l₂.findSome? check with
    | none => rw [List.findSome?_eq_none_iff.mp h₂ a (hp.subset ha)] at hae; cases hae
    | some e' =>
      obtain ⟨b, hb, hbe⟩ := List.exists_of_findSome?_eq_some h₂
      rw [← hae, ← hbe, atMostOne a ha b (hp.symm.subset hb) (hae ▸ rfl) (hbe ▸ rfl)]

/-- with two failing entries the delivered diagnostic *does* depend on the order — which is
why iterating `callExpr.Args` / `genericUnifiedMap` as maps was a defect (c1063e9, 1b75d92) -/
theorem first_error_order_dependent :
    firstError (fun n : Nat => if n > 0 then some n else none) [1, 2] ≠
    firstError (fun n : Nat => if n > 0 then some n else none) [2, 1] := by decide

/-- after sorting the entries by a key that is total on them, the delivered diagnostic is the
same for every iteration order, however many entries fail -/
theorem first_error_after_sort {α ε} (check : α → Option ε) (less : α → α → Bool) (s₁ s₂ : List α)
    (total : ∀ a ∈ s₁, ∀ b ∈ s₁, a ≠ b → less a b = true ∨ less b a = true)
    (h₁ : SortedBy less s₁) (h₂ : SortedBy less s₂) (hp : s₁.Perm s₂) :
    firstError check s₁ = firstError check s₂ := by
  rw [sort_unique less s₁ s₂ total h₁ h₂ hp]

/-- releasing a set of distinct blocks leaves the same live blocks in whatever order the
variables of a scope are visited (`exitScope`, `exitFuncScope`, frees before `Gib … zurück`) -/
theorem free_order_unobservable (live : List Nat) (f₁ f₂ : List Nat) (hp : f₁.Perm f₂) :
    (f₁.foldl (fun h b => h.erase b) live).Perm (f₂.foldl (fun h b => h.erase b) live) := by
  induction hp generalizing live with
  | nil => exact List.Perm.refl _
  | cons x _ ih => exact ih (live.erase x)
  | swap x y l =>
    simp only [List.foldl_cons]
    rw [List.erase_comm]
  | trans _ _ ih₁ ih₂ => exact (ih₁ live).trans (ih₂ live)

/-- counting (`sortAliases`: number of Referenz / generic parameters) is order-independent -/
theorem count_order_unobservable {α} (p : α → Bool) (l₁ l₂ : List α) (hp : l₁.Perm l₂) :
    l₁.countP p = l₂.countP p := hp.countP_eq p

/-- the regenerated inventory (typed scan: every `range` over a map, every maps.Keys/Values,
every sort and binary search in the front end, code generator and linker driver) is covered
by the classification; a new site makes this fail, unless it is in `src/ast/printer.go`, whose
sites `classify` takes as `debugOnly` wholesale -/
theorem site_inventory_covered : ∀ s ∈ orderSites, (classify s).isSome = true := by decide +kernel

end DDP.C16
