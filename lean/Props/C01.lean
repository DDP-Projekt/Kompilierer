import DDP.Impl.ExprLadder
import DDP.Proofs.LadderParse
import DDP.Spec.Eval

/-!
# C01 — compiled programs behave as DDP's evaluation rules prescribe

The evaluation rules are the L2 reference evaluator (`DDP.Spec.evalExpr`, `execStmt`, …: total
functions, structural on the fuel).  This file states the rules the property singles out as
theorems about that evaluator and its primitive operations; the compiled programs are tied to the
evaluator by the correspondence check (`vlib/props/C01.py`).

Which tree an expression is, is the second part (`DDP.Ladder`): precedence and associativity as read
off the regenerated ladder of `expressions.go`, and the ladder run as a parser on what the program
generator prints.
-/

namespace DDP.Spec

theorem wrap64_range (i : Int) : -9223372036854775808 ≤ wrap64 i ∧ wrap64 i < 9223372036854775808 := by
  simp only [wrap64]; omega

theorem wrap64_id (i : Int) (h : -9223372036854775808 ≤ i ∧ i < 9223372036854775808) : wrap64 i = i := by
  simp only [wrap64]; omega

/-- the wrapped result is congruent to the exact one modulo 2^64 -/
theorem wrap64_congr (i : Int) : (wrap64 i - i) % 18446744073709551616 = 0 := by
  simp only [wrap64]; omega

theorem wrap8_lt (i : Int) : wrap8 i < 256 := by
  unfold wrap8; omega

theorem wrap8_id (n : Nat) (h : n < 256) : wrap8 (n : Int) = n := by
  rw [wrap8, Int.emod_eq_of_lt (Int.natCast_nonneg n) (by omega), Int.toNat_natCast]

/-- Zahl arithmetic is exact arithmetic wrapped to 64 bits -/
theorem plus_zahl (a b : Int) : arith .plus (.int a) (.int b) = .ok (.int (wrap64 (a + b))) := by
  simp [arith, isFloatV, Val.toInt?]

theorem minus_zahl (a b : Int) : arith .minus (.int a) (.int b) = .ok (.int (wrap64 (a - b))) := by
  simp [arith, isFloatV, Val.toInt?]

theorem mal_zahl (a b : Int) : arith .mult (.int a) (.int b) = .ok (.int (wrap64 (a * b))) := by
  simp [arith, isFloatV, Val.toInt?]

/-- two Bytes stay a Byte (modulo 256) -/
theorem plus_byte (a b : Nat) : arith .plus (.byte a) (.byte b) = .ok (.byte (wrap8 ((a : Int) + b))) := by
  simp [arith]

/-- a Byte next to a Zahl counts with its unsigned value and the result is a Zahl -/
theorem plus_zahl_byte (a : Int) (b : Nat) : arith .plus (.int a) (.byte b) = .ok (.int (wrap64 (a + b))) := by
  simp [arith, isFloatV, Val.toInt?]

theorem minus_byte_zahl (a : Nat) (b : Int) : arith .minus (.byte a) (.int b) = .ok (.int (wrap64 (a - b))) := by
  simp [arith, isFloatV, Val.toInt?]

/-- a Kommazahl operand makes the operation a floating one; the Byte converts unsigned -/
theorem durch_byte_komma (b : Nat) (k : Float) :
    floatOp2 (· / ·) (.byte b) (.float k) = .ok (.float (Float.ofNat b / k)) := by
  simp [floatOp2, Val.toFloat?]

/-! ## conversions between Zahl, Kommazahl, Byte, Wahrheitswert, Buchstabe -/

theorem byte_als_zahl (n : Nat) : castVal (.byte n) .zahl = .ok (.int n) := by
  simp [castVal, numCast, Val.toInt?]

theorem zahl_als_byte (z : Int) : castVal (.int z) .byte = .ok (.byte (z % 256).toNat) := by
  simp [castVal, numCast, Val.toInt?, wrap8]

theorem wahr_als_zahl (b : Bool) : castVal (.bool b) .zahl = .ok (.int (if b then 1 else 0)) := by
  simp [castVal]

theorem buchstabe_als_zahl (c : Int) : castVal (.char c) .zahl = .ok (.int c) := by
  simp [castVal]

theorem zahl_als_wahr (z : Int) : castVal (.int z) .wahr = .ok (.bool (z != 0)) := by
  simp [castVal]

/-- an initialiser / assignment converts between the numeric types, and only between them -/
theorem coerce_numeric (v : Val) (t : Ty) (h : isNumTy t = true) (hv : isNumVal v = true) :
    coerceTo t v = numCast t v := by
  cases t <;> simp_all [coerceTo, isNumTy]

theorem coerce_other (v : Val) (t : Ty) (h : isNumTy t = false) (hv : t ≠ .variable) : coerceTo t v = .ok v := by
  cases t <;> simp_all [coerceTo, isNumTy]

/-! ## short-circuit evaluation -/

/-- `a und b` with `a` false: `b` is not evaluated (no output, no Laufzeitfehler, no state change) -/
theorem und_short (ctx : Ctx) (fuel : Nat) (env : Env) (st st' : State) (a b : Expr)
    (h : evalExpr ctx fuel env st a = (st', .ok (.bool false))) :
    evalExpr ctx (fuel + 1) env st (.bin .and a b) = (st', .ok (.bool false)) := by
  simp only [evalExpr, h]

theorem und_long (ctx : Ctx) (fuel : Nat) (env : Env) (st st' : State) (a b : Expr)
    (h : evalExpr ctx fuel env st a = (st', .ok (.bool true))) :
    evalExpr ctx (fuel + 1) env st (.bin .and a b) = evalExpr ctx fuel env st' b := by
  simp only [evalExpr, h]

theorem oder_short (ctx : Ctx) (fuel : Nat) (env : Env) (st st' : State) (a b : Expr)
    (h : evalExpr ctx fuel env st a = (st', .ok (.bool true))) :
    evalExpr ctx (fuel + 1) env st (.bin .or a b) = (st', .ok (.bool true)) := by
  simp only [evalExpr, h]

theorem oder_long (ctx : Ctx) (fuel : Nat) (env : Env) (st st' : State) (a b : Expr)
    (h : evalExpr ctx fuel env st a = (st', .ok (.bool false))) :
    evalExpr ctx (fuel + 1) env st (.bin .or a b) = evalExpr ctx fuel env st' b := by
  simp only [evalExpr, h]

/-- the skipped operand is irrelevant: any two right operands give the same result -/
theorem und_short_indep (ctx : Ctx) (fuel : Nat) (env : Env) (st st' : State) (a b b' : Expr)
    (h : evalExpr ctx fuel env st a = (st', .ok (.bool false))) :
    evalExpr ctx (fuel + 1) env st (.bin .and a b) = evalExpr ctx (fuel + 1) env st (.bin .and a b') := by
  rw [und_short ctx fuel env st st' a b h, und_short ctx fuel env st st' a b' h]

/-- `x, falls c, ansonsten y`: the condition first, then only the chosen operand -/
theorem falls_wahr (ctx : Ctx) (fuel : Nat) (env : Env) (st st' : State) (x c y : Expr)
    (h : evalExpr ctx fuel env st c = (st', .ok (.bool true))) :
    evalExpr ctx (fuel + 1) env st (.ter .falls x c y) = evalExpr ctx fuel env st' x := by
  simp only [evalExpr, h]

theorem falls_falsch (ctx : Ctx) (fuel : Nat) (env : Env) (st st' : State) (x c y : Expr)
    (h : evalExpr ctx fuel env st c = (st', .ok (.bool false))) :
    evalExpr ctx (fuel + 1) env st (.ter .falls x c y) = evalExpr ctx fuel env st' y := by
  simp only [evalExpr, h]

/-- binary operators evaluate the left operand first; its Laufzeitfehler ends the evaluation (stated for `plus`) -/
theorem bin_left_fehler (ctx : Ctx) (fuel : Nat) (env : Env) (st st' : State) (a b : Expr)
    (h : evalExpr ctx fuel env st a = (st', .fehler)) :
    evalExpr ctx (fuel + 1) env st (.bin .plus a b) = (st', .fehler) := by
  simp only [evalExpr, h]

/-! ## 1-based indexing and slicing -/

theorem index_one_based (t : Ty) (vs : List Val) (i : Int) (h1 : 1 ≤ i) (h2 : i ≤ vs.length) :
    indexVal (.list t vs) i = .ok (vs[(i - 1).toNat]'(by omega)) := by
  simp only [indexVal, h1, h2, and_self, if_true, List.getElem?_eq_getElem (show (i - 1).toNat < vs.length by omega)]

theorem index_outside (t : Ty) (vs : List Val) (i : Int) (h : i < 1 ∨ (vs.length : Int) < i) :
    indexVal (.list t vs) i = .fehler := by
  rw [indexVal, if_neg (by omega)]

theorem text_index_one_based (cps : List Nat) (i : Int) (h1 : 1 ≤ i) (h2 : i ≤ cps.length) :
    indexVal (.text cps) i = .ok (.char (cps[(i - 1).toNat]'(by omega))) := by
  simp only [indexVal, h1, h2, and_self, if_true, List.getElem?_eq_getElem (show (i - 1).toNat < cps.length by omega)]

theorem clampI_inside (i lo hi : Int) (h1 : lo ≤ i) (h2 : i ≤ hi) : clampI i lo hi = i := by
  simp only [clampI]; omega

theorem clampI_low (i lo hi : Int) (h1 : i ≤ lo) (h2 : lo ≤ hi) : clampI i lo hi = lo := by
  simp only [clampI]; omega

theorem clampI_high (i lo hi : Int) (h1 : hi ≤ i) : clampI i lo hi = hi := by
  simp only [clampI]; omega

theorem sliceList_pos {α} (l : List α) (i j : Int) (h : 0 < l.length) :
    sliceList l i j = if clampI j 1 l.length < clampI i 1 l.length then none
      else some ((l.drop (clampI i 1 l.length - 1).toNat).take ((clampI j 1 l.length - clampI i 1 l.length).toNat + 1)) := by
  cases l with
  | nil => cases h
  | cons => rfl

/-- a slice inside the bounds is exactly `drop (i-1)` then `take (j-i+1)` -/
theorem slice_inside {α} (l : List α) (i j : Int) (h1 : 1 ≤ i) (h2 : i ≤ j) (h3 : j ≤ l.length) :
    sliceList l i j = some ((l.drop (i - 1).toNat).take ((j - i).toNat + 1)) := by
  rw [sliceList_pos l i j (by omega), clampI_inside i 1 _ h1 (by omega), clampI_inside j 1 _ (by omega) h3, if_neg (by omega)]

/-- the whole list is the slice from 1 to its length, and bounds beyond the ends are clamped -/
theorem slice_clamped {α} (l : List α) (i j : Int) (h : l ≠ []) (hi : i ≤ 1) (hj : (l.length : Int) ≤ j) :
    sliceList l i j = some l := by
  have hl : 0 < l.length := List.length_pos_iff.mpr h
  rw [sliceList_pos l i j hl, clampI_low i 1 _ hi (by omega), clampI_high j 1 _ hj, if_neg (by omega)]
  simpa using List.take_of_length_le (by omega)

theorem slice_crossed {α} (l : List α) (i j : Int) (h1 : 1 ≤ j) (h2 : j < i) (h3 : i ≤ l.length) :
    sliceList l i j = none := by
  rw [sliceList_pos l i j (by omega), clampI_inside i 1 _ (by omega) h3, clampI_inside j 1 _ h1 (by omega), if_pos h2]

/-! ## equality on every type -/

theorem gleich_zahl (a b : Int) : equalVals (.int a) (.int b) = (a == b) := by simp [equalVals]
theorem gleich_text (a b : List Nat) : equalVals (.text a) (.text b) = (a == b) := by simp [equalVals]
theorem gleich_buchstabe (a b : Int) : equalVals (.char a) (.char b) = (a == b) := by simp [equalVals]
theorem gleich_wahr (a b : Bool) : equalVals (.bool a) (.bool b) = (a == b) := by simp [equalVals]

/-- the (static) element type of a list does not take part in equality -/
theorem gleich_liste_nil (t u : Ty) : equalVals (.list t []) (.list u []) = true := by simp [equalVals, equalList]

theorem gleich_liste_cons (t u : Ty) (x y : Val) (xs ys : List Val) :
    equalVals (.list t (x :: xs)) (.list u (y :: ys)) = (equalVals x y && equalVals (.list t xs) (.list u ys)) := by
  simp [equalVals, equalList]

theorem gleich_liste_length (t u : Ty) (xs ys : List Val) (h : xs.length ≠ ys.length) :
    equalVals (.list t xs) (.list u ys) = false := by
  rw [equalVals]
  induction xs generalizing ys with
  | nil => cases ys with
    | nil => exact absurd rfl h
    | cons => rfl
  | cons x xs ih => cases ys with
    | nil => rfl
    | cons y ys => rw [equalList, ih ys (mt (congrArg (· + 1)) h), Bool.and_false]

/-- two Variablen that hold values are equal exactly when the values have the same type and are equal -/
theorem gleich_variable (tx ty : Ty) (x y : Val) :
    equalVals (.any (some (tx, x))) (.any (some (ty, y))) = (tx == ty && equalVals x y) := by simp [equalVals]

/-! ## counting loops: one check, one round -/

/-- a loop whose condition is false ends normally, with only the condition's effects -/
theorem loop_ends (ctx : Ctx) (fuel : Nat) (env : Env) (st st' : State)
    (cond : Env → State → State × R Bool) (body : List Stmt) (after : Env → State → State)
    (h : cond env st = (st', .ok false)) :
    execLoop ctx (fuel + 1) env st cond body after false = (st', .normal) := by
  simp only [execLoop, Bool.false_eq_true, if_false, h]

/-- a round: the body in a fresh scope, then the step, then the next check -/
theorem loop_round (ctx : Ctx) (fuel : Nat) (env : Env) (st st' st'' : State)
    (cond : Env → State → State × R Bool) (body : List Stmt) (after : Env → State → State)
    (h : cond env st = (st', .ok true)) (hb : execBlock ctx fuel env.push st' body = (st'', .normal)) :
    execLoop ctx (fuel + 1) env st cond body after false = execLoop ctx fuel env (after env st'') cond body after false := by
  simp only [execLoop, Bool.false_eq_true, if_false, h, hb]

/-- `Verlasse die Schleife` ends the loop normally, `Fahre mit der Schleife fort` goes on with the step -/
theorem loop_break (ctx : Ctx) (fuel : Nat) (env : Env) (st st' st'' : State)
    (cond : Env → State → State × R Bool) (body : List Stmt) (after : Env → State → State)
    (h : cond env st = (st', .ok true)) (hb : execBlock ctx fuel env.push st' body = (st'', .brk)) :
    execLoop ctx (fuel + 1) env st cond body after false = (st'', .normal) := by
  simp only [execLoop, Bool.false_eq_true, if_false, h, hb]

theorem loop_continue (ctx : Ctx) (fuel : Nat) (env : Env) (st st' st'' : State)
    (cond : Env → State → State × R Bool) (body : List Stmt) (after : Env → State → State)
    (h : cond env st = (st', .ok true)) (hb : execBlock ctx fuel env.push st' body = (st'', .cont)) :
    execLoop ctx (fuel + 1) env st cond body after false = execLoop ctx fuel env (after env st'') cond body after false := by
  simp only [execLoop, Bool.false_eq_true, if_false, h, hb]

/-- for-each runs over the elements of the value the operand had on entry (`execForEach` is handed the list). A round is
`foreach_copies` (`Props/C08.lean`). -/
theorem foreach_nil (ctx : Ctx) (fuel : Nat) (env : Env) (st : State) (t : Ty) (n : String) (ix : Option String)
    (body : List Stmt) (k : Nat) :
    execForEach ctx (fuel + 1) env st t n ix body [] k = (st, .normal) := by
  simp only [execForEach]

/-- `Wiederhole … n Mal` with a count of zero or below does not run its body (the compiled loop used to test `counter ≠ 0`
and ran 2^64 − |n| times; repaired) -/
example : (run { structs := [], funcs := [],
                 main := [.repeat (.intLit (-3)) [.print (.intLit 1) true], .repeat (.intLit 0) [.print (.intLit 2) true],
                          .repeat (.intLit 2) [.print (.intLit 3) true], .print (.intLit 9) true] } 8).stdout
          = "3\n3\n9\n" := by decide +kernel

/-- non-vacuity: a concrete program exercising precedence, conversion, short-circuit, indexing -/
example : (run { structs := [], funcs := [],
                 main := [.print (.bin .plus (.intLit 1) (.bin .mult (.intLit 2) (.intLit 3))) true,
                          .print (.bin .and (.boolLit false) (.bin .eq (.bin .index (.listLit .zahl []) (.intLit 1)) (.intLit 0))) true,
                          .print (.bin .index (.listLit .zahl [.intLit 4, .intLit 5]) (.intLit 2)) true] } 8).stdout
          = "7\nfalsch\n5\n" := by decide +kernel

end DDP.Spec

namespace DDP.Ladder
open DDP.Generated.Ladder

/-! ## Precedence and associativity as the parser has them now (over the ladder regenerated from expressions.go) -/

/-- the rungs exist in the documented order (each one's number is its precedence) -/
theorem ladder_order : ladder.map (·.name) = expectedOrder := rfl

/-- ten rungs are left-associative chains whose operands all come from the next tighter rung:
`a op b op c` is `(a op b) op c`, and an operand with a looser operator needs parentheses -/
theorem left_chains : leftChains.all (fun (n, next) => (rung? n).any (isLeftChain · next)) = true := by decide +kernel

/-- there is no rung between an operator and its operands -/
theorem chains_are_consecutive :
    leftChains.all (fun (n, next) => (level n).bind (fun i => (level next).map (· == i + 1)) == some true) = true := by decide +kernel

/-- every operator is built on its documented rung, and on no looser one -/
theorem op_precedence : expectedOps.all (fun (op, r) => (buildersOf op).head? == some r ||
      -- `nicht` is also built by `kein(e) T` on the equality rung, around the type test it negates
      (op == "UN_NOT" && buildersOf op == ["equality", "unary"])) = true := by decide +kernel

/-- no operator of the parser is missing from the table -/
theorem ops_complete : (ladder.flatMap (·.ops)).all (fun op => (expectedOps.map Prod.fst).contains op) = true := by decide +kernel

/-- the token (sequence) that announces each operator family -/
theorem loop_tokens : expectedLoopToks.all (fun (n, toks) => (rung? n).any (fun r => r.loops.map (·.toks) == [toks])) = true := by decide +kernel

/-- `entweder a, oder b` and the sign `-a` are prefix forms: they return after one application, there is no chain to associate -/
theorem prefix_forms : (rung? "boolXOR").any isPrefixForm = true ∧ (rung? "negate").any isPrefixForm = true ∧
    (rung? "negate").map (·.calls) = some ["negate", "power"] := by decide +kernel

/-- `a, falls c, ansonsten b`: the first operand is an `entweder`-level expression, condition and alternative are whole
`falls` expressions again (right nested) -/
theorem falls_shape : (rung? "ifExpression").map (fun r => (r.calls, r.loops.map (·.calls))) =
    some (["boolXOR", "ifExpression"], [["ifExpression"]]) := by decide +kernel

/-- `hoch` takes a whole unary expression as exponent and is chained to the left -/
theorem power_shape : (rung? "power").map (fun r => r.loops.map (fun l => (l.toks, l.calls, l.rebinds))) =
    some [(["HOCH"], ["unary"], true)] := by decide +kernel

/-- unary operators apply to unary expressions (so `nicht nicht a`, `der Betrag von -a` need no parentheses) and give way
to `negate` otherwise -/
theorem unary_shape : (rung? "unary").map (·.calls) = some ["alias", "power", "negate", "unary"] := by decide +kernel

/-- the numbers the program generator prints minimal parentheses with (`P_FALLS` = 1 … `P_PRIMARY` = 20) -/
theorem generator_levels : level "ifExpression" = some 1 ∧ level "boolOR" = some 3 ∧ level "equality" = some 8 ∧
    level "term" = some 11 ∧ level "factor" = some 12 ∧ level "unary" = some 13 ∧ level "negate" = some 14 ∧
    level "power" = some 15 ∧ level "primary" = some 20 := by decide +kernel

/-! ## The ladder as a parser: what the chain rungs make of a token sequence

`DDP.LadderParse.parse` is the executable model of the shape the theorems above read off the source, `ddpTbl` its operator
table computed from the regenerated ladder. The tie (`vlib/laddercorr.py`) gives the same token sequences to this model
and — spelled as DDP — to the real parser and compares the trees. -/

/-- the generator's level (`P_x`) of the operators of `chainOps` -/
def generatorLevels : List (Option Nat) :=
  [some 3, some 4, some 5, some 6, some 7, some 11, some 11, some 11, some 12, some 12, some 12,
   some 9, some 9, some 9, some 9, some 10, some 10]

/-- … read off the regenerated ladder: the one search through the operator names of the source that the table needs -/
theorem chainOps_levels : chainOps.map (fun op => (buildersOf op).head?.bind level) = generatorLevels := by
  decide +kernel

theorem chainLevel_eq (o : Nat) : chainLevel o =
    match (chainOps.map (fun op => (buildersOf op).head?.bind level))[o]? with
    | some (some l) => l - chainBase
    | _ => chainCount := by
  unfold chainLevel
  rw [List.getElem?_map]
  cases chainOps[o]? with
  | none => rfl
  | some op =>
    simp only [Option.map_some]
    cases buildersOf op with
    | nil => rfl
    | cons r _ => simp only [List.head?_cons, Option.bind_some]; cases level r <;> rfl

/-- the table as literals; the examples below compute with these instead of searching the ladder for every operator token -/
theorem ddpTbl_eq : ddpTbl =
    ⟨10, fun o => match generatorLevels[o]? with | some (some l) => l - 3 | _ => 10, chainClosed⟩ := by
  have hb : chainBase = 3 := by decide +kernel
  have hn : chainCount = 10 := by decide +kernel
  unfold ddpTbl
  rw [funext chainLevel_eq, chainOps_levels, hb, hn]

/-- the table computed from the source is the documented one: ten chain rungs; `oder` loosest, then `und`, the three
`logisch` operators, three rungs further (equality, comparison, shifts) `plus / minus / verkettet mit`, then
`mal / durch / modulo`; the four comparisons on rung 6 and the two shifts on rung 7 are the operators with a closing word
(that column is `chainClosed` as written down in `DDP/Impl/ExprLadder.lean`, not read off the source) -/
theorem chain_table_from_source : ddpTbl.n = 10 ∧
    (List.range 18).map ddpTbl.lv = [0, 1, 2, 3, 4, 8, 8, 8, 9, 9, 9, 6, 6, 6, 6, 7, 7, 10] ∧
    (List.range 18).map ddpTbl.cl = [false, false, false, false, false, false, false, false, false, false, false,
                                     true, true, true, true, true, true, false] := by rw [ddpTbl_eq]; decide +kernel

/-- … and these are the numbers the generator's printer parenthesises with: `P_x - P_OR` -/
theorem chain_table_is_generator_table :
    (chainOps.map (fun op => (buildersOf op).head?.bind level)).map (·.map (· - 3)) =
      (List.range 17).map (fun o => some (ddpTbl.lv o)) := by rw [chainOps_levels, ddpTbl_eq]; decide +kernel

/-- every rung of the table is one of the loops `left_chains` found in the source: rung `k` of the model is the `k`-th
function from `boolOR`, and that function is `next (op next)*` over the function after it -/
theorem chain_rungs_are_source_loops :
    (List.range ddpTbl.n).all (fun k =>
      match (ladder.map (·.name))[chainBase + k]?, (ladder.map (·.name))[chainBase + k + 1]? with
      | some r, some next => leftChains.contains (r, next) && (rung? r).any (isLeftChain · next)
      | _, _ => false) = true := by decide +kernel

open DDP.LadderParse

/-- **Minimal parentheses are faithful.** For every tree over the chain operators, the prefix operators, `entweder a, oder b`
and the conditional expression `a, falls c, ansonsten b`, the parser (at the table of the DDP in /repo) reads the
minimal-parentheses spelling back as that tree, and every larger fuel gives the same answer. Instance of `parse_pp`
(`DDP/Proofs/LadderParse.lean`: any table, any tree, induction on the tree) and `parseIf_mono`. -/
theorem minimal_parentheses_faithful (e : E) (h : wf ddpTbl e) :
    ∃ f₀, ∀ f, f₀ ≤ f → parseIf ddpTbl f (ppI ddpTbl e) = some (e, []) :=
  let ⟨f₀, h₀⟩ := parse_pp ddpTbl e h
  ⟨f₀, fun _ hle => parseIf_mono hle h₀⟩

/-- the same without fuel: `parseAll` runs the ladder with the fuel `fuel_suffices` proves sufficient for every input -/
theorem minimal_parentheses_roundtrip (e : E) (h : wf ddpTbl e) : parseAll ddpTbl (ppI ddpTbl e) = some e :=
  parseAll_pp ddpTbl e h

/-- the model driver of the tie calls `parseAll`: it runs the model and not a truncation of it -/
theorem parseAll_is_the_ladder (ts : List Tok) (e : E) :
    parseAll ddpTbl ts = some e ↔ ∃ f, parseIf ddpTbl f ts = some (e, []) :=
  parseAll_eq_some ddpTbl ts e

/-- the same inside a larger sentence, as operand of chain rung `k` -/
theorem minimal_parentheses_faithful_in_context (e : E) (h : wf ddpTbl e) (k : Nat) (hk : k ≤ 10) (rest : List Tok)
    (hrest : okRest ddpTbl k rest) : ∃ f, parse ddpTbl f k (pp ddpTbl k e ++ rest) = some (e, rest) :=
  parse_pp_at ddpTbl e h k (by rw [chain_table_from_source.1]; exact hk) rest hrest

/-- … and where a whole expression stands (condition or alternative of a conditional expression, inside parentheses) -/
theorem minimal_parentheses_faithful_whole_expression (e : E) (h : wf ddpTbl e) (rest : List Tok) (hrest : okRestI rest) :
    ∃ f, parseIf ddpTbl f (ppI ddpTbl e ++ rest) = some (e, rest) :=
  parseIf_pp_at ddpTbl e h rest hrest

/-- **Minimal parentheses lose nothing**: different trees are spelled differently -/
theorem minimal_parentheses_injective (e₁ e₂ : E) (h₁ : wf ddpTbl e₁) (h₂ : wf ddpTbl e₂)
    (h : ppI ddpTbl e₁ = ppI ddpTbl e₂) : e₁ = e₂ :=
  pp_injective ddpTbl e₁ e₂ h₁ h₂ h

/-- the ladder reads from the front and leaves the rest alone: what a rung hands back as remaining tokens is a suffix of what it
was given (no token dropped from the middle, reordered or invented), for every token sequence -/
theorem ladder_reads_from_the_front (f k : Nat) (ts : List Tok) (x : E × List Tok) (h : parse ddpTbl f k ts = some x) :
    ∃ pre, ts = pre ++ x.2 :=
  (consumes_prefix ddpTbl f).1 k ts x h

/-- the parser is a function of the tokens: the fuel only decides whether it finishes -/
theorem ladder_parse_deterministic {f f' k ts x y} (h : parse ddpTbl f k ts = some x) (h' : parse ddpTbl f' k ts = some y) :
    x = y := parse_det ddpTbl h h'

/-- `1 plus 2 mal 3` is `1 plus (2 mal 3)` -/
example : parseAll ddpTbl [.atom 1, .bop 5, .atom 2, .bop 8, .atom 3] =
    some (.bin 5 (.atom 1) (.bin 8 (.atom 2) (.atom 3))) := by rw [ddpTbl_eq]; decide +kernel
/-- `1 minus 2 minus 3` is `(1 minus 2) minus 3` -/
example : parseAll ddpTbl [.atom 1, .bop 6, .atom 2, .bop 6, .atom 3] =
    some (.bin 6 (.bin 6 (.atom 1) (.atom 2)) (.atom 3)) := by rw [ddpTbl_eq]; decide +kernel
/-- `a oder b und nicht c plus d` -/
example : parseAll ddpTbl [.atom 1, .bop 0, .atom 2, .bop 1, .uop 0, .atom 3, .bop 5, .atom 4] =
    some (.bin 0 (.atom 1) (.bin 1 (.atom 2) (.bin 5 (.un 0 (.atom 3)) (.atom 4)))) := by rw [ddpTbl_eq]; decide +kernel
/-- the right-nested tree needs its parentheses, the left-nested one none; the hypothesis of the theorem is met -/
example : pp ddpTbl 0 (.bin 6 (.atom 1) (.bin 6 (.atom 2) (.atom 3))) =
    [.atom 1, .bop 6, .lp, .atom 2, .bop 6, .atom 3, .rp] ∧
    pp ddpTbl 0 (.bin 6 (.bin 6 (.atom 1) (.atom 2)) (.atom 3)) = [.atom 1, .bop 6, .atom 2, .bop 6, .atom 3] ∧
    wf ddpTbl (.bin 6 (.atom 1) (.bin 6 (.atom 2) (.atom 3))) := by rw [ddpTbl_eq]; decide +kernel
/-- a prefix operator binds tighter than every chain: `nicht (a und b)` keeps its parentheses, `(nicht a) und b` drops them -/
example : pp ddpTbl 0 (.un 0 (.bin 1 (.atom 1) (.atom 2))) = [.uop 0, .lp, .atom 1, .bop 1, .atom 2, .rp] ∧
    pp ddpTbl 0 (.bin 1 (.un 0 (.atom 1)) (.atom 2)) = [.uop 0, .atom 1, .bop 1, .atom 2] := by rw [ddpTbl_eq]; decide +kernel
/-- the table matters: with `mal` moved to the rung of `plus` the same tokens give another tree -/
example : parseAll ⟨10, fun o => if o = 8 then 8 else ddpTbl.lv o, ddpTbl.cl⟩ [.atom 1, .bop 5, .atom 2, .bop 8, .atom 3] =
    some (.bin 8 (.bin 5 (.atom 1) (.atom 2)) (.atom 3)) := by rw [ddpTbl_eq]; decide +kernel
/-- `1, falls a, ansonsten 2, falls b, ansonsten 3` is `1, falls a, ansonsten (2, falls b, ansonsten 3)`: a chain of conditional
expressions nests to the right and is spelled without parentheses; the left-nested tree needs them -/
example : parseAll ddpTbl [.atom 1, .falls, .atom 7, .sonst, .atom 2, .falls, .atom 8, .sonst, .atom 3] =
    some (.ite (.atom 1) (.atom 7) (.ite (.atom 2) (.atom 8) (.atom 3))) ∧
    ppI ddpTbl (.ite (.atom 1) (.atom 7) (.ite (.atom 2) (.atom 8) (.atom 3))) =
      [.atom 1, .falls, .atom 7, .sonst, .atom 2, .falls, .atom 8, .sonst, .atom 3] ∧
    ppI ddpTbl (.ite (.ite (.atom 1) (.atom 7) (.atom 2)) (.atom 8) (.atom 3)) =
      [.lp, .atom 1, .falls, .atom 7, .sonst, .atom 2, .rp, .falls, .atom 8, .sonst, .atom 3] := by rw [ddpTbl_eq]; decide +kernel
/-- a conditional expression is looser than every chain: as an operand it is parenthesised, its own value operand is not -/
example : ppI ddpTbl (.bin 5 (.atom 1) (.ite (.atom 2) (.atom 7) (.atom 3))) =
      [.atom 1, .bop 5, .lp, .atom 2, .falls, .atom 7, .sonst, .atom 3, .rp] ∧
    parseAll ddpTbl [.atom 1, .bop 5, .atom 2, .falls, .atom 7, .sonst, .atom 3] =
      some (.ite (.bin 5 (.atom 1) (.atom 2)) (.atom 7) (.atom 3)) := by rw [ddpTbl_eq]; decide +kernel
/-- `entweder a, oder b` is a prefix form over the loosest chain rung: its operands take whole chains without parentheses, as a
value operand of a conditional expression it stands free, as an operand of a chain it is parenthesised -/
example : parseAll ddpTbl [.entw, .atom 1, .bop 1, .atom 2, .oderk, .atom 3, .bop 0, .atom 4] =
      some (.xor (.bin 1 (.atom 1) (.atom 2)) (.bin 0 (.atom 3) (.atom 4))) ∧
    ppI ddpTbl (.ite (.xor (.atom 1) (.atom 2)) (.atom 7) (.atom 3)) = [.entw, .atom 1, .oderk, .atom 2, .falls, .atom 7, .sonst, .atom 3] ∧
    ppI ddpTbl (.bin 1 (.xor (.atom 1) (.atom 2)) (.atom 3)) = [.lp, .entw, .atom 1, .oderk, .atom 2, .rp, .bop 1, .atom 3] ∧
    parseAll ddpTbl [.entw, .atom 1, .oderk, .atom 2, .falls, .atom 7, .sonst, .atom 3] =
      some (.ite (.xor (.atom 1) (.atom 2)) (.atom 7) (.atom 3)) := by rw [ddpTbl_eq]; decide +kernel
/-- comparisons and shifts close behind their right operand: `a größer als b plus 1 ist` compares `a` with `b plus 1`;
`a um 2 Bit nach Links verschoben kleiner als b ist` shifts first; a missing or foreign closing word is rejected -/
example : parseAll ddpTbl [.atom 1, .bop 11, .atom 2, .bop 5, .atom 3, .cls 11] =
      some (.bin 11 (.atom 1) (.bin 5 (.atom 2) (.atom 3))) ∧
    parseAll ddpTbl [.atom 1, .bop 15, .atom 2, .cls 15, .bop 12, .atom 3, .cls 12] =
      some (.bin 12 (.bin 15 (.atom 1) (.atom 2)) (.atom 3)) ∧
    ppI ddpTbl (.bin 12 (.bin 15 (.atom 1) (.atom 2)) (.atom 3)) = [.atom 1, .bop 15, .atom 2, .cls 15, .bop 12, .atom 3, .cls 12] ∧
    ppI ddpTbl (.bin 15 (.atom 1) (.bin 12 (.atom 2) (.atom 3))) = [.atom 1, .bop 15, .lp, .atom 2, .bop 12, .atom 3, .cls 12, .rp, .cls 15] ∧
    parseAll ddpTbl [.atom 1, .bop 11, .atom 2] = none ∧ parseAll ddpTbl [.atom 1, .bop 11, .atom 2, .cls 12] = none := by rw [ddpTbl_eq]; decide +kernel
/-- ill-formed sequences are rejected, not repaired -/
example : parseAll ddpTbl [.atom 1, .bop 5] = none ∧ parseAll ddpTbl [.atom 1, .atom 2] = none ∧
    parseAll ddpTbl [.lp, .atom 1] = none ∧ parseAll ddpTbl [.bop 5, .atom 1] = none ∧
    parseAll ddpTbl [.atom 1, .falls, .atom 7] = none ∧ parseAll ddpTbl [.atom 1, .sonst, .atom 7] = none ∧
    parseAll ddpTbl [.entw, .atom 1] = none ∧ parseAll ddpTbl [.atom 1, .oderk, .atom 2] = none := by rw [ddpTbl_eq]; decide +kernel

end DDP.Ladder
