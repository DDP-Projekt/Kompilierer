/-!
Insertion into a sorted list, once.  `Resolve.insertC`, `OMap.insertSorted`, `Modules.insertEntry` and
`Duden.einsortieren` all walk down a list and put the new element in front of the first element at which some
test holds; each is `insertBefore` for its own test: `insertC_eq` (Props/C09), `insertSorted_eq` (Proofs/OrderedMap),
`insertEntry_eq` (Props/C10), `einsortieren_eq` (Props/C17).
-/

namespace DDP

variable {α : Type}

def insertBefore (stop : α → Bool) (x : α) : List α → List α
  | [] => [x]
  | y :: r => if stop y then x :: y :: r else y :: insertBefore stop x r

theorem insertBefore_perm (stop : α → Bool) (x : α) : ∀ l, (insertBefore stop x l).Perm (x :: l)
  | [] => .refl _
  | y :: r => by
    unfold insertBefore
    split
    · exact .refl _
    · exact ((insertBefore_perm stop x r).cons y).trans (.swap x y r)

theorem mem_insertBefore {stop : α → Bool} {x y : α} {l : List α} :
    y ∈ insertBefore stop x l ↔ y = x ∨ y ∈ l := by
  rw [(insertBefore_perm stop x l).mem_iff, List.mem_cons]

/-- `x` has to be related to the element it stops at and to whatever that one is related to (the rest of the list) -/
theorem pairwise_insertBefore {R : α → α → Prop} {stop : α → Bool} {x : α} : ∀ {l : List α}, l.Pairwise R →
    (∀ y ∈ l, stop y = false → R y x) → (∀ y ∈ l, stop y = true → R x y ∧ ∀ z, R y z → R x z) →
    (insertBefore stop x l).Pairwise R
  | [], _, _, _ => List.pairwise_singleton R x
  | y :: r, h, hpass, hstop => by
    obtain ⟨hy, hr⟩ := List.pairwise_cons.mp h
    unfold insertBefore
    split
    · next hs =>
      obtain ⟨hxy, hxz⟩ := hstop y List.mem_cons_self hs
      exact List.pairwise_cons.mpr ⟨fun z hz => (List.mem_cons.mp hz).elim (· ▸ hxy) fun hz => hxz z (hy z hz), h⟩
    · next hs =>
      refine List.pairwise_cons.mpr ⟨fun z hz => ?_, pairwise_insertBefore hr
        (fun z hz => hpass z (List.mem_cons_of_mem _ hz)) (fun z hz => hstop z (List.mem_cons_of_mem _ hz))⟩
      exact (mem_insertBefore.mp hz).elim (· ▸ hpass y List.mem_cons_self (by simpa using hs)) (hy z)

theorem find?_pairwise {R : α → α → Prop} {p : α → Bool} {l : List α} {c : α} (h : l.Pairwise R)
    (hc : l.find? p = some c) : ∀ d ∈ l, p d = true → d = c ∨ R c d := by
  obtain ⟨_, as, bs, rfl, has⟩ := List.find?_eq_some_iff_append.mp hc
  intro d hd hpd
  rcases List.mem_append.mp hd with hd | hd
  · have := has d hd; simp [hpd] at this
  · exact (List.mem_cons.mp hd).imp_right ((List.pairwise_cons.mp (List.pairwise_append.mp h).2.1).1 d)

end DDP
