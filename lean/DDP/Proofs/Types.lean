import DDP.Impl.Types

/-! `Equal` is equality of `GetUnderlying` normal forms: the lemmas through which `DDP.Types`
is used (C14, and the operator tables of C02). The laws about aliases and lists that follow from them
(`equal_congr_alias`, `equal_congr_list`, `alias_in_list`, …) are in `Props/C14.lean`, same namespace. -/

namespace DDP.Types

theorem getUnderlying_idem (a : Ty) : getUnderlying (getUnderlying a) = getUnderlying a := by
  induction a with
  | alias u ih => exact ih
  | list e ih => exact congrArg Ty.list ih
  | _ => rfl

theorem getUnderlying_ne_alias (x u : Ty) : getUnderlying x ≠ .alias u := by
  induction x with
  | alias v ih => exact ih
  | _ => exact Ty.noConfusion

theorem sizeOf_getUnderlying_le (x : Ty) : sizeOf (getUnderlying x) ≤ sizeOf x := by
  induction x with
  | alias u ih => simp only [getUnderlying, Ty.alias.sizeOf_spec]; omega
  | list e ih => simp only [getUnderlying, Ty.list.sizeOf_spec]; omega
  | _ => exact Nat.le_refl _

theorem equal_iff (a b : Ty) : equal a b = true ↔ getUnderlying a = getUnderlying b := beq_iff_eq

theorem equal_refl (a : Ty) : equal a a = true := (equal_iff a a).2 rfl

theorem equal_symm (a b : Ty) : equal a b = equal b a := BEq.comm

theorem equal_trans (a b c : Ty) (h1 : equal a b = true) (h2 : equal b c = true) : equal a c = true := by
  rw [equal_iff] at *; exact h1.trans h2

theorem isOneOf_iff {t : Ty} {ts : List Ty} : isOneOf t ts = true ↔ ∃ s ∈ ts, getUnderlying t = getUnderlying s := by
  simp [isOneOf, equal_iff]

theorem isList_iff (t : Ty) : isList t = true ↔ ∃ e, getUnderlying t = .list e := by
  unfold isList
  cases getUnderlying t <;> simp

end DDP.Types
