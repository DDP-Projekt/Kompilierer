import DDP.Impl.Utf8

/-!
Lemmas about the UTF-8 model, for all scalar values (no enumeration).

The arithmetic on a code point (`c / 4096 % 64` …) is done once, in `encode_shape`: an encoding
is a lead byte `192 + a`, `224 + a` or `240 + a` and continuation bytes `128 + d`, the digits
`a`, `d` giving `c` in base 64.  What the C functions do with such bytes (`Shape`) is then
arithmetic on one small digit at a time, and holds for overlong forms and surrogates as well.
-/

namespace DDP.Utf8

theorem isScalar_iff {c : Nat} : isScalar c = true ↔ c < 0xD800 ∨ (0xE000 ≤ c ∧ c < 0x110000) := by
  simp [isScalar]

inductive Shape : Nat → List Nat → Prop
  | one {c} : c < 128 → Shape c [c]
  | two {c a b} : a < 32 → b < 64 → c = a * 64 + b → Shape c [192 + a, 128 + b]
  | three {c a b d} : a < 16 → b < 64 → d < 64 → c = a * 4096 + b * 64 + d →
      Shape c [224 + a, 128 + b, 128 + d]
  | four {c a b d e} : a < 8 → b < 64 → d < 64 → e < 64 → c = a * 262144 + b * 4096 + d * 64 + e →
      Shape c [240 + a, 128 + b, 128 + d, 128 + e]

theorem encode_shape {c : Nat} (h : c < 0x110000) : Shape c (encode c) := by
  unfold encode
  split
  · exact .one ‹_›
  split
  · exact .two (by omega) (by omega) (by omega)
  -- told how the quotients nest, `omega` finds the digit sums several times sooner
  have : c / 64 / 64 = c / 4096 := Nat.div_div_eq_div_mul c 64 64
  split
  · exact .three (by omega) (by omega) (by omega) (by omega)
  have : c / 4096 / 64 = c / 262144 := Nat.div_div_eq_div_mul c 4096 64
  exact .four (by omega) (by omega) (by omega) (by omega) (by omega)

theorem encode_shape_of_isScalar {c : Nat} (hs : isScalar c = true) : Shape c (encode c) :=
  encode_shape (by rw [isScalar_iff] at hs; omega)

/-! what the bit tests of `utf8.c` (`b / 32 == 6` is `(b & 0xe0) == 0xc0`) see of each kind of byte,
and the payload they extract -/

theorem lead1 {c : Nat} (h : c < 128) : c / 128 = 0 ∧ c / 64 ≠ 2 := by omega

theorem lead2 {a : Nat} (h : a < 32) :
    (192 + a) / 128 = 1 ∧ (192 + a) / 64 = 3 ∧ (192 + a) / 32 = 6 ∧ (192 + a) / 16 ≠ 15 ∧
      (192 + a) % 32 = a := by omega

theorem lead3 {a : Nat} (h : a < 16) :
    (224 + a) / 128 = 1 ∧ (224 + a) / 64 = 3 ∧ (224 + a) / 32 = 7 ∧ (224 + a) / 16 = 14 ∧
      (224 + a) % 16 = a := by omega

theorem lead4 {a : Nat} (h : a < 8) :
    (240 + a) / 128 = 1 ∧ (240 + a) / 64 = 3 ∧ (240 + a) / 32 = 7 ∧ (240 + a) / 16 = 15 ∧
      (240 + a) / 8 = 30 ∧ (240 + a) % 8 = a := by omega

theorem cont {d : Nat} (h : d < 64) : (128 + d) / 64 = 2 ∧ (128 + d) % 64 = d := by omega

namespace Shape
variable {c : Nat} {l : List Nat}

theorem length_pos (h : Shape c l) : 0 < l.length := by cases h <;> simp

theorem bytes (h : Shape c l) (h0 : c ≠ 0) : ∀ b ∈ l, 0 < b ∧ b < 256 := by
  cases h <;> simp <;> omega

theorem headD_ne_zero (h : Shape c l) (h0 : c ≠ 0) (rest : List Nat) : (l ++ rest).headD 0 ≠ 0 := by
  cases h <;> simp <;> omega

theorem indicated (h : Shape c l) (rest : List Nat) :
    indicatedNumBytes ((l ++ rest).headD 0) = l.length := by
  cases h <;> simp [indicatedNumBytes, lead1, lead2, lead3, lead4, *]

theorem continuations (h : Shape c l) : (l.filter (fun b => !isContinuation b)).length = 1 := by
  cases h <;> simp [isContinuation, lead1, lead2, lead3, lead4, cont, *]

/-- `utf8_num_bytes`, whatever follows (the up to four bytes it measures first are not NUL) -/
theorem numBytes_eq (h : Shape c l) (h0 : c ≠ 0) (rest : List Nat) : numBytes (l ++ rest) = l.length := by
  cases h <;> simp [numBytes, cstr, isContinuation, lead1, lead2, lead3, lead4, cont, *]

theorem decode1_eq (h : Shape c l) (h0 : c ≠ 0) (rest : List Nat) : decode1 (l ++ rest) = c := by
  unfold decode1
  rw [h.numBytes_eq h0]
  cases h <;> simp [lead2, lead3, lead4, cont, *]

end Shape

theorem length_encode (c : Nat) :
    (encode c).length = if c < 0x80 then 1 else if c < 0x800 then 2 else if c < 0x10000 then 3 else 4 := by
  simp only [encode, apply_ite List.length, List.length_cons, List.length_nil]

end DDP.Utf8
