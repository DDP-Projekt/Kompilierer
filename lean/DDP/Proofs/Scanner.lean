import DDP.Impl.Scanner
import DDP.Spec.Lexical

/-! The scanner model against `DDP.Spec.Lexical`: every sub-scanner splits its input and
tracks the position (`Sub.Good`), so does one `NextToken` dispatch (`BodyOk`), so does the
whole stream (`ResultOk`): `scanAllFuel_ok` for whatever is returned, `scanAllFuel_total` that something is.
`Props/C13.lean` reads its stream theorems off `scan_ok`. -/

namespace DDP.Scanner
open DDP.Generated

@[simp] theorem posAfter_nil (p : Pos) : posAfter p [] = p := rfl
@[simp] theorem posAfter_cons (p : Pos) (c : Char) (cs : List Char) :
    posAfter p (c :: cs) = posAfter (p.step c) cs := rfl
theorem posAfter_append (p : Pos) (a b : List Char) :
    posAfter p (a ++ b) = posAfter (posAfter p a) b := List.foldl_append ..

theorem adv_pos_of_ne (s : St) {c : Char} (h : c ≠ '\n') : (s.adv c).pos = s.pos.step c := by
  simp [St.adv, Pos.step, h]

theorem advNl_pos (s : St) (c : Char) : (s.advNl c).pos = s.pos.step c := by
  unfold St.advNl Pos.step; split <;> rfl

theorem advs_pos (s : St) (w : List Char) (h : '\n' ∉ w) : (s.advs w).pos = posAfter s.pos w := by
  induction w generalizing s with
  | nil => rfl
  | cons c w ih =>
    rw [List.mem_cons, not_or] at h
    exact (ih (s.adv c) h.2).trans (by rw [adv_pos_of_ne s (Ne.symm h.1)]; rfl)

theorem ne_nl_of_not_isSpace {c : Char} (h : isSpace c = false) : c ≠ '\n' := by
  rintro rfl; cases h

theorem not_of_dropWhile_eq_cons {p : Char → Bool} {l rest : List Char} {c : Char}
    (h : l.dropWhile p = c :: rest) : p c = false := by
  have := List.head?_dropWhile_not p l
  rwa [h] at this

structure Sub.Good (s : St) (cs : List Char) (r : Sub) : Prop where
  split : r.consumed ++ r.rest = cs
  pos : r.st.pos = posAfter s.pos r.consumed

namespace Sub.Good
variable {s s' : St} {c : Char} {cs : List Char} {r : Sub}

theorem nil (s : St) (cs : List Char) : Good s cs { st := s, consumed := [], rest := cs } :=
  ⟨rfl, rfl⟩

theorem cons (h : Good s' cs r) (hp : s'.pos = s.pos.step c) : Good s (c :: cs) (r.cons c) :=
  ⟨congrArg (c :: ·) h.split, show r.st.pos = posAfter (s.pos.step c) r.consumed from hp ▸ h.pos⟩

theorem addDiag (d : Diag) (h : Good s cs r) : Good s cs (r.addDiag d) := ⟨h.split, h.pos⟩
theorem setBackslash (h : Good s cs r) : Good s cs r.setBackslash := ⟨h.split, h.pos⟩

theorem seq {r' : Sub} (h : Good s cs r) (h' : Good r.st r.rest r') :
    Good s cs { st := r'.st, consumed := r.consumed ++ r'.consumed, rest := r'.rest } :=
  ⟨by rw [List.append_assoc, h'.split, h.split], by rw [posAfter_append, ← h.pos]; exact h'.pos⟩

theorem of_advs (hs : r.consumed ++ r.rest = cs) (hst : r.st = s.advs r.consumed)
    (hnl : '\n' ∉ r.consumed) : Good s cs r :=
  ⟨hs, hst ▸ advs_pos s _ hnl⟩

end Sub.Good

theorem skipWs_good (s : St) (n : Nat) (cs : List Char) : Sub.Good s cs (skipWs s n cs) := by
  fun_induction skipWs s n cs with
  | case1 | case7 => exact .nil ..  -- end of input, a non-blank: nothing consumed
  | case5 => exact .cons ‹_› (by rw [adv_pos_of_ne _ (by decide)]; split <;> rfl)  -- a tab
  | _ => exact .cons ‹_› (by simp [Pos.step, St.adv, St.incLine])

theorem skipWs_run (s : St) (n : Nat) (cs : List Char) :
    (skipWs s n cs).consumed = cs.takeWhile isSpace ∧ (skipWs s n cs).rest = cs.dropWhile isSpace := by
  fun_induction skipWs s n cs <;> simp [Sub.cons, isSpace, *]

theorem skipWs_blank (s : St) (n : Nat) (cs : List Char) : Blank (skipWs s n cs).consumed :=
  (skipWs_run s n cs).1 ▸ List.all_eq_true.mp List.all_takeWhile

theorem skipWs_rest {s : St} {n : Nat} {cs rest : List Char} {c : Char}
    (h : (skipWs s n cs).rest = c :: rest) : isSpace c = false :=
  not_of_dropWhile_eq_cons ((skipWs_run s n cs).2.symm.trans h)

theorem scanQuoted_good (q : Char) (hq : q ≠ '\n') (s : St) (cs : List Char) :
    Sub.Good s cs (scanQuoted q s cs) := by
  fun_induction scanQuoted q s cs with
  | case1 => exact .nil ..
  | case2 s cs => exact ⟨rfl, by simp [adv_pos_of_ne, hq]⟩
  | case3 s cs _ ih => exact ih.cons (by simp [Pos.step, St.adv, St.incLine])
  | case4 s d ds hesc _ _ ih =>
    have hd : d ≠ '\n' := fun e => by subst e; simp [isEscape, Ne.symm hq] at hesc
    exact ((ih.cons (adv_pos_of_ne _ hd)).cons (adv_pos_of_ne _ (by decide))).setBackslash
  | case5 s d ds _ _ _ ih => exact ((ih.cons (adv_pos_of_ne _ (by decide))).setBackslash).addDiag _
  | case6 s => exact (((Sub.Good.nil ..).cons (adv_pos_of_ne _ (by decide))).setBackslash).addDiag _
  | case7 s c cs _ hnl _ ih => exact ih.cons (adv_pos_of_ne _ hnl)

theorem scanQuoted_plain {q c : Char} (h1 : c ≠ q) (h2 : c ≠ '\n') (h3 : c ≠ '\\') (s : St) (cs : List Char) :
    scanQuoted q s (c :: cs) = (scanQuoted q (s.adv c) cs).cons c := by
  rw [scanQuoted.eq_def]; simp only [h1, h2, h3, if_false]

theorem scanQuoted_escape {q l : Char} (hq : q ≠ '\\') (hl : isEscape q l = true) (s : St) (cs : List Char) :
    scanQuoted q s ('\\' :: l :: cs) =
      ((scanQuoted q ((s.adv '\\').adv l) cs).cons2 '\\' l).setBackslash := by
  rw [scanQuoted.eq_def]; simp [Ne.symm hq, hl]

theorem scanComment_good (s : St) (d : Nat) (cs : List Char) : Sub.Good s cs (scanComment s d cs) := by
  fun_induction scanComment s d cs with
  | case1 | case2 => exact .nil ..
  | case3 s _ c _ _ ih => exact ih.cons (advNl_pos s c)

theorem takeWhileSt_eq (p : Char → Bool) (s : St) (cs : List Char) :
    takeWhileSt p s cs =
      { st := s.advs (cs.takeWhile p), consumed := cs.takeWhile p, rest := cs.dropWhile p } := by
  induction cs generalizing s with
  | nil => rfl
  | cons c cs ih => unfold takeWhileSt; split <;> simp [*, Sub.cons, St.advs]

theorem takeWhileSt_good (p : Char → Bool) (hp : p '\n' = false) (s : St) (cs : List Char) :
    Sub.Good s cs (takeWhileSt p s cs) := by
  rw [takeWhileSt_eq]
  exact .of_advs List.takeWhile_append_dropWhile rfl
    fun h => Bool.false_ne_true (hp.symm.trans (List.all_eq_true.mp List.all_takeWhile _ h))

theorem scanNumber_cases (s : St) (cs : List Char) :
    let r := takeWhileSt isDigit s cs
    (scanNumber s cs = (r, false) ∧ ∀ d rest, r.rest = ',' :: d :: rest → isDigit d = false) ∨
    ∃ d ds, r.rest = ',' :: d :: ds ∧ isDigit d = true ∧
      scanNumber s cs =
        (let r2 := takeWhileSt isDigit (r.st.adv ',') (d :: ds)
         { st := r2.st, consumed := r.consumed ++ ',' :: r2.consumed, rest := r2.rest }, true) := by
  intro r
  fun_cases scanNumber s cs with
  | case1 _ c d ds h hcd =>
    obtain ⟨rfl, hd⟩ : c = ',' ∧ isDigit d = true := by simpa using hcd
    exact .inr ⟨d, ds, h, hd, rfl⟩
  | case2 _ c d ds h hcd =>
    refine .inl ⟨rfl, fun d' rest e => ?_⟩
    obtain ⟨rfl, rfl, -⟩ : c = ',' ∧ d = d' ∧ ds = rest := by simpa using h.symm.trans e
    simpa using hcd
  | case3 _ hno => exact .inl ⟨rfl, fun d rest e => (hno _ _ _ e).elim⟩

theorem scanNumber_good (s : St) (cs : List Char) : Sub.Good s cs (scanNumber s cs).1 := by
  have h1 := takeWhileSt_good isDigit rfl s cs
  rcases scanNumber_cases s cs with ⟨e, -⟩ | ⟨d, ds, hr, -, e⟩ <;> rw [e]
  · exact h1
  · exact h1.seq (hr ▸ (takeWhileSt_good isDigit rfl _ _).cons (adv_pos_of_ne _ (by decide)))

theorem scanPlaceholderBody_run (start : Pos) (s : St) (cs : List Char) :
    let r := scanPlaceholderBody start s cs
    r.consumed ++ r.rest = cs ∧ r.st = s.advs r.consumed := by
  induction cs generalizing s with
  | nil => exact ⟨rfl, rfl⟩
  | cons c cs ih =>
    unfold scanPlaceholderBody
    split
    · exact ⟨rfl, rfl⟩
    · split <;> simpa [Sub.cons, Sub.addDiag, St.advs] using ih (s.adv c)

/-- `aliasParameter()` only calls `advance()`: a line break inside `<…>` is counted as a column,
so the position is tracked only when there is none (`Sub.Good.of_advs`) -/
theorem scanPlaceholder_run (start : Pos) (lt : Char) (s : St) (cs : List Char) :
    let r := scanPlaceholder start lt s cs
    r.consumed ++ r.rest = cs ∧ r.st = s.advs r.consumed := by
  obtain ⟨hs, hst⟩ := scanPlaceholderBody_run start s cs
  rcases h : (scanPlaceholderBody start s cs).rest with _ | ⟨c, cs'⟩ <;> rw [h] at hs <;>
    simp only [scanPlaceholder, h]
  · exact ⟨hs, hst⟩
  · exact ⟨by simpa using hs, by simp [hst, St.advs]⟩

theorem identifierType_mem (w : List Char) :
    identifierType w = .IDENTIFIER ∨ ∃ e ∈ keywordMap, e.2 = identifierType w := by
  have key : ∀ w, keywordToTokenType w = .IDENTIFIER ∨ ∃ e ∈ keywordMap, e.2 = keywordToTokenType w := by
    intro w
    unfold keywordToTokenType lookupKw
    cases h : keywordMap.find? (fun e => e.1.toList == w) with
    | none => exact .inl rfl
    | some e => exact .inr ⟨e, List.mem_of_find?_eq_some h, rfl⟩
  simp only [identifierType]
  split <;> exact key _

/-- a fact about the regenerated keyword table -/
theorem identifierType_ne (w : List Char) :
    identifierType w ≠ .EOF ∧ identifierType w ≠ .ALIAS_PARAMETER := by
  have tbl : ∀ e ∈ keywordMap, e.2 ≠ TokenType.EOF ∧ e.2 ≠ TokenType.ALIAS_PARAMETER := by decide +kernel
  rcases identifierType_mem w with h | ⟨e, he, h⟩
  · rw [h]; decide
  · rw [← h]; exact tbl e he

/-- `stop` excepts the recorded deviation (a line break inside an alias placeholder) -/
structure BodyOk (m : Mode) (s0 : St) (c : Char) (cs : List Char) (out : Out) : Prop where
  split : out.2.2.1 ++ out.2.2.2.1 = c :: cs
  nonempty : out.2.2.1 ≠ []
  start : out.1.start = s0.pos
  stop : (out.1.type = .ALIAS_PARAMETER → '\n' ∉ out.2.2.1) → out.1.stop = posAfter s0.pos out.2.2.1
  stpos : out.2.1.pos = out.1.stop
  lit : out.1.type ≠ .ILLEGAL → out.1.literal = out.2.2.1
  noteof : out.1.type ≠ .EOF
  alias : out.1.type = .ALIAS_PARAMETER → m.alias = true

section
variable {m : Mode} {s0 : St} {c : Char} {cs : List Char} (hc : c ≠ '\n') {r : Sub}
include hc

theorem emit_ok (h : Sub.Good (s0.adv c) cs r) {ty : TokenType}
    (hty : ty ≠ .EOF ∧ ty ≠ .ALIAS_PARAMETER) (d : List Diag) : BodyOk m s0 c cs (emit ty s0 c r d) :=
  have g := h.cons (adv_pos_of_ne s0 hc)
  ⟨g.split, nofun, rfl, fun _ => g.pos, rfl, fun _ => rfl, hty.1, (absurd · hty.2)⟩

theorem emitSingle_ok {ty : TokenType} (hty : ty ≠ .EOF ∧ ty ≠ .ALIAS_PARAMETER) :
    BodyOk m s0 c cs (emitSingle ty s0 c cs) :=
  emit_ok hc (.nil ..) hty []

theorem emitIllegal_ok (h : Sub.Good (s0.adv c) cs r) (msg : List Char) :
    BodyOk m s0 c cs (emitIllegal msg s0 c r) :=
  have g := h.cons (adv_pos_of_ne s0 hc)
  ⟨g.split, nofun, rfl, fun _ => g.pos, rfl, (absurd rfl ·), nofun, nofun⟩

theorem scanPlaceholderTok_ok (hm : m.alias = true) : BodyOk m s0 c cs (scanPlaceholderTok s0 c cs) := by
  obtain ⟨hs, hst⟩ := scanPlaceholder_run s0.pos c (s0.adv c) cs
  refine ⟨congrArg (c :: ·) hs, nofun, rfl, fun hn => ?_, rfl, fun _ => rfl, nofun, fun _ => hm⟩
  exact ((Sub.Good.of_advs hs hst fun h => hn rfl (List.mem_cons_of_mem _ h)).cons (adv_pos_of_ne s0 hc)).pos

theorem scanDot_ok : BodyOk m s0 c cs (scanDot s0 c cs) := by
  unfold scanDot
  split
  · exact emit_ok hc (((Sub.Good.nil ..).cons (adv_pos_of_ne _ (by decide))).cons
      (adv_pos_of_ne _ (by decide))) (by decide) _
  · exact emitSingle_ok hc (by decide)

theorem scanQuotedTok_ok {q : Char} (hq : q ≠ '\n') {ty : TokenType}
    (hty : ty ≠ .EOF ∧ ty ≠ .ALIAS_PARAMETER) (msg : List Char) (d : List Diag) :
    let r := scanQuoted q (s0.adv c) cs
    BodyOk m s0 c cs (if r.flag then emit ty s0 c r d else emitIllegal msg s0 c r) :=
  iteInduction (fun _ => emit_ok hc (scanQuoted_good q hq ..) hty _)
    fun _ => emitIllegal_ok hc (scanQuoted_good q hq ..) _

theorem scanBody_ok : BodyOk m s0 c cs (scanBody m s0 c cs) := by
  unfold scanBody
  -- one branch at a time: a single `split` on this goal spends 37k heartbeats and gives up
  refine iteInduction (fun _ => emit_ok hc (takeWhileSt_good _ rfl ..)
    (identifierType_ne _) _) fun _ => ?_
  refine iteInduction (fun _ => emit_ok hc (scanNumber_good ..) (by split <;> decide) _) fun _ => ?_
  refine iteInduction (fun _ => emitSingle_ok hc (by decide)) fun _ => ?_
  refine iteInduction (fun _ => scanDot_ok hc) fun _ => ?_
  refine iteInduction (fun _ => emitSingle_ok hc (by decide)) fun _ => ?_
  refine iteInduction (fun _ => emitSingle_ok hc (by decide)) fun _ => ?_
  refine iteInduction (fun _ => emitSingle_ok hc (by decide)) fun _ => ?_
  refine iteInduction (fun _ => emitSingle_ok hc (by decide)) fun _ => ?_
  refine iteInduction (fun _ => scanQuotedTok_ok hc (by decide) (by decide) ..) fun _ => ?_
  refine iteInduction (fun _ => scanQuotedTok_ok hc (by decide) (by decide) ..) fun _ => ?_
  refine iteInduction (fun _ => emit_ok hc (scanComment_good ..) (by decide) _) fun _ => ?_
  exact iteInduction (fun h => scanPlaceholderTok_ok hc (Bool.and_eq_true_iff.mp h).2)
    fun _ => emitSingle_ok hc (by decide)

end

def NoNlInPlaceholders (segs : List Seg) : Prop :=
  ∀ sg ∈ segs, sg.tok.type = .ALIAS_PARAMETER → '\n' ∉ sg.body

structure SegOk (m : Mode) (sg : Seg) : Prop where
  /-- every token is the result of one `NextToken` dispatch (lifts per-token facts) -/
  fromBody : ∃ s0 c cs, sg.tok = (scanBody m s0 c cs).1 ∧ sg.body = (scanBody m s0 c cs).2.2.1 ∧
    isSpace c = false
  blank : Blank sg.gap
  nonempty : sg.body ≠ []
  lit : sg.tok.type ≠ .ILLEGAL → sg.tok.literal = sg.body
  noteof : sg.tok.type ≠ .EOF

structure ResultOk (m : Mode) (s : St) (src : List Char) (r : Result) : Prop where
  cover : coveredBy r.segs ++ r.trailing = src
  segs : ∀ sg ∈ r.segs, SegOk m sg
  trailing : Blank r.trailing
  eofType : r.eof.type = .EOF
  eofLit : r.eof.literal = []
  pos : NoNlInPlaceholders r.segs →
    PosOk s.pos r.segs ∧ r.eof.start = posAfter s.pos src ∧ r.eof.stop = r.eof.start

section
variable {m : Mode} {s s1 st : St} {gap body rest cs : List Char} {c : Char} {t : Tok}
  {d : List Diag} {r : Result} (hgap : Blank gap) (hpos : s1.pos = posAfter s.pos gap)
include hgap hpos

theorem ResultOk.eof :
    ResultOk m s gap { segs := [], trailing := gap, eof := (mkTok .EOF s1.pos s1 []).1, diags := [] } :=
  ⟨rfl, (fun _ h => nomatch h), hgap, rfl, rfl, fun _ => ⟨trivial, hpos, rfl⟩⟩

/-- one round of `scanAllFuel`: blanks, a token scanned from where they end, the stream of what it leaves -/
theorem ResultOk.cons (hsp : isSpace c = false) (ho : scanBody m s1 c cs = (t, st, body, rest, d))
    (hr : ResultOk m st rest r) :
    ResultOk m s (gap ++ c :: cs) { r with segs := ⟨gap, body, t⟩ :: r.segs, diags := d ++ r.diags } := by
  have hb : BodyOk m s1 c cs (t, st, body, rest, d) := ho ▸ scanBody_ok (ne_nl_of_not_isSpace hsp)
  have hsplit : body ++ rest = c :: cs := hb.split
  refine ⟨?_, List.forall_mem_cons.mpr ⟨⟨⟨_, _, _, by rw [ho], by rw [ho], hsp⟩, hgap,
    hb.nonempty, hb.lit, hb.noteof⟩, hr.segs⟩, hr.trailing, hr.eofType, hr.eofLit, fun hno => ?_⟩
  · simp only [coveredBy, List.append_assoc]
    rw [hr.cover, hsplit]
  · obtain ⟨hno1, hno2⟩ := List.forall_mem_cons.mp hno
    obtain ⟨hp, he1, he2⟩ := hr.pos hno2
    have key : posAfter s.pos (gap ++ body) = st.pos := by
      rw [posAfter_append, ← hpos, hb.stpos, hb.stop hno1]
    refine ⟨⟨hb.start.trans hpos, ?_, key ▸ hp⟩, he1.trans ?_, he2⟩
    · rw [key]; exact hb.stpos.symm
    · rw [← key, ← posAfter_append, List.append_assoc, hsplit]

end

/-- partial correctness needs no fuel argument -/
theorem scanAllFuel_ok {m : Mode} {fuel : Nat} {s : St} {src : List Char} {r : Result} :
    scanAllFuel m fuel s src = some r → ResultOk m s src r := by
  fun_induction scanAllFuel m fuel s src generalizing r with
  | case1 | case3 => nofun
  | case2 _ s src w hw =>
    -- the `have w` of `scanAllFuel.induct` takes a name but is not counted: the last hypothesis gets none
    rename_i ht
    rintro ⟨⟩
    obtain ⟨hsrc, hpos⟩ := skipWs_good s 0 src
    rw [hw, List.append_nil] at hsrc
    cases ht
    exact hsrc ▸ .eof (skipWs_blank s 0 src) hpos
  | case4 _ s src w c cs hw _ _ _ _ _ ho _ hr =>
    rename_i ih
    rintro ⟨⟩
    obtain ⟨hsrc, hpos⟩ := skipWs_good s 0 src
    rw [hw] at hsrc
    exact hsrc ▸ .cons (skipWs_blank s 0 src) hpos (skipWs_rest hw) ho (ih hr)

/-- every token consumes something: the fuel suffices -/
theorem scanAllFuel_total (m : Mode) (fuel : Nat) (s : St) (src : List Char) :
    src.length < fuel → ∃ r, scanAllFuel m fuel s src = some r := by
  fun_induction scanAllFuel m fuel s src with
  | case1 => nofun
  | case2 | case4 => exact fun _ => ⟨_, rfl⟩
  | case3 _ s src w c cs hw t st body rest d ho hnone =>
    rename_i ih
    intro hlen
    have hb : BodyOk m w.st c cs (t, st, body, rest, d) :=
      ho ▸ scanBody_ok (ne_nl_of_not_isSpace (skipWs_rest hw))
    have h1 : (body ++ rest).length = _ := congrArg List.length hb.split
    have h2 : (w.consumed ++ w.rest).length = _ := congrArg List.length (skipWs_good s 0 src).split
    have : 0 < body.length := List.length_pos_iff.mpr hb.nonempty
    simp only [hw, List.length_append, List.length_cons] at h1 h2
    obtain ⟨r, hr⟩ := ih (by omega)
    cases hnone.symm.trans hr

theorem scan_ok {m : Mode} {origin : Pos} {indent : Nat} {src : List Char} {r : Result}
    (h : scan m origin indent src = some r) : ResultOk m (initSt origin indent) src r :=
  scanAllFuel_ok h

end DDP.Scanner
