import DDP.Impl.Own

/-! For `Props/C05.lean`: the abstract code compiled from any well-scoped function body runs without
ownership errors and ends owning nothing but the returned value.

The invariant `Inv cs own` sees the compile-time state only through the list `flatS cs.all` of registered slots, up to
order, and the counter `cs.next`; each operation on the state is described once by what it does to that list. The
abstract machine gets a small Hoare logic (`Sat`; the rules `sat_seq`, `sat_choice`, `sat_ofList`, … and, for whole triples,
`Triple.loop`), so that the induction over statements never looks at the outcomes of `run` one by one. -/

namespace DDP.Own

def flatS (scs : List Scope) : List Slot := scs.flatMap (fun s => s.vars ++ s.temps)

@[simp] theorem flatS_nil : flatS [] = [] := rfl
@[simp] theorem flatS_cons (s : Scope) (r : List Scope) : flatS (s :: r) = (s.vars ++ s.temps) ++ flatS r := rfl
theorem flatS_append (a b : List Scope) : flatS (a ++ b) = flatS a ++ flatS b := List.flatMap_append

/-- the abstract heap is exactly what the compile-time scopes say is owned -/
structure InvT (scs : List Scope) (own : List Slot) : Prop where
  nd : own.Nodup
  fnd : (flatS scs).Nodup
  mem : ∀ x, x ∈ own ↔ x ∈ flatS scs

/-- every registered slot was allocated, and none is the out-pointer -/
def Bound (scs : List Scope) (next : Nat) : Prop := ∀ x : Nat, x ∈ flatS scs → 0 < x ∧ x < next

def runIns : List Ins → List Slot → Option (List Slot)
  | [], own => some own
  | i :: is, own => (step i own).bind (runIns is)

@[simp] theorem runIns_nil (own : List Slot) : runIns [] own = some own := rfl
@[simp] theorem runIns_cons (i : Ins) (is : List Ins) (own : List Slot) : runIns (i :: is) own = (step i own).bind (runIns is) := rfl

theorem runIns_append {a b : List Ins} {own o1 : List Slot} (ha : runIns a own = some o1) :
    runIns (a ++ b) own = runIns b o1 := by
  induction a generalizing own with
  | nil => cases ha; rfl
  | cons i is ih =>
    obtain ⟨o, hs, ha⟩ := Option.bind_eq_some_iff.mp ha
    rw [List.cons_append, runIns_cons, hs]
    exact ih ha

theorem run_ofList {fuel : Nat} {is : List Ins} {path : List Bool} {own o : List Slot} (h : runIns is own = some o) :
    run fuel (Code.ofList is) path own = .normal o path := by
  induction is generalizing own with
  | nil => cases h; simp only [Code.ofList, run]
  | cons i is ih =>
    obtain ⟨o1, hs, h⟩ := Option.bind_eq_some_iff.mp h
    simp only [Code.ofList, run, hs]
    exact ih h

/-- the outcome is no error, and the heap satisfies `N` at a normal end, `J` at a `brk` or `cont`, `R` at a `ret`;
running out of branch decisions or of fuel says nothing -/
def Sat (N J R : List Slot → Prop) : Out → Prop
  | .err _ => False
  | .normal own _ => N own
  | .brk own _ | .cont own _ => J own
  | .ret own => R own
  | .timeout => True

def Triple (P : List Slot → Prop) (c : Code) (N J R : List Slot → Prop) : Prop :=
  ∀ fuel path own, P own → Sat N J R (run fuel c path own)

section
variable {M N N' J J' R R' : List Slot → Prop} {a b : Code} {fuel : Nat} {path : List Bool} {own : List Slot}

theorem Sat.mono {o : Out} (h : Sat N J R o) (hN : ∀ own, N own → N' own) (hJ : ∀ own, J own → J' own)
    (hR : ∀ own, R own → R' own) : Sat N' J' R' o :=
  match o, h with
  | .err _, h => h
  | .normal _ _, h => hN _ h
  | .brk _ _, h => hJ _ h
  | .cont _ _, h => hJ _ h
  | .ret _, h => hR _ h
  | .timeout, _ => trivial

theorem Sat.post {o : Out} (h : Sat N J R o) (hN : ∀ own, N own → N' own) : Sat N' J R o :=
  h.mono hN (fun _ h => h) (fun _ h => h)

theorem sat_ofList {is : List Ins} {o : List Slot} (h : runIns is own = some o) (hN : N o) :
    Sat N J R (run fuel (Code.ofList is) path own) := by
  rw [run_ofList h]; exact hN

theorem sat_skip (h : N own) : Sat N J R (run fuel .skip path own) := by rw [run]; exact h
theorem sat_brk (h : J own) : Sat N J R (run fuel .brk path own) := by rw [run]; exact h
theorem sat_cont (h : J own) : Sat N J R (run fuel .cont path own) := by rw [run]; exact h
theorem sat_ret (h : R own) : Sat N J R (run fuel .ret path own) := by rw [run]; exact h

theorem sat_seq (ha : Sat M J R (run fuel a path own)) (hb : ∀ own' path', M own' → Sat N J R (run fuel b path' own')) :
    Sat N J R (run fuel (.seq a b) path own) := by
  rw [run]
  generalize run fuel a path own = o at ha
  cases o with
  | normal own' path' => exact hb own' path' ha
  | _ => exact ha

theorem sat_choice (ha : ∀ p, Sat N J R (run fuel a p own)) (hb : ∀ p, Sat N J R (run fuel b p own)) :
    Sat N J R (run fuel (.choice a b) path own) := by
  match path with
  | [] => rw [run]; trivial
  | true :: p => rw [run]; exact ha p
  | false :: p => rw [run]; exact hb p

/-- `I` holds whenever the condition is evaluated; the loop itself never ends in a jump -/
theorem Triple.loop {I : List Slot → Prop} {c : Code} (hc : Triple I c I (fun _ => False) (fun _ => False)) (hb : Triple I b I I R) :
    Triple I (.loop c b) I J R := by
  intro fuel
  induction fuel with
  | zero => intro _ _ _; rw [run]; trivial
  | succ n ih =>
    intro path own h
    rw [run]
    have hc' := hc n path own h
    generalize run n c path own = o at hc'
    -- the outcomes left out are those for which `hc'` or `hb'` is `False`
    match o, hc' with
    | .normal own1 [], _ => trivial
    | .normal own1 (false :: p), hc' => exact hc'
    | .normal own1 (true :: p), hc' =>
      have hb' := hb n p own1 hc'
      dsimp only
      generalize run n b p own1 = o at hb'
      match o, hb' with
      | .normal o p, hb' => exact ih p o hb'
      | .cont o p, hb' => exact ih p o hb'
      | .brk o p, hb' => exact hb'
      | .ret o, hb' => exact hb'
      | .timeout, _ => trivial
    | .timeout, _ => trivial
end

section
variable {own : List Slot} {d s a b r : Slot} {f : Nat}

theorem step_fromConst (h : d ∉ own) : step (.fromConst d) own = some (d :: own) := by
  simp [step, h]

theorem step_copy (hs : s ∈ own) (h : d ∉ own) : step (.copy d s) own = some (d :: own) := by
  simp [step, h, hs]

theorem step_free (hs : s ∈ own) : step (.free s) own = some (own.erase s) := by
  simp [step, hs]

theorem step_move (hs : s ∈ own) (h : d ∉ own.erase s) : step (.move d s) own = some (d :: own.erase s) := by
  simp [step, h, hs]

theorem step_concatT (ha : a ∈ own) (hb : b ∈ own) (h : d ∉ own) : step (.concatT d a b) own = some (d :: own) := by
  simp [step, h, ha, hb]

theorem step_concatC (ha : a ∈ own) (hb : b ∈ own) (h : d ∉ own.erase a) :
    step (.concatC d a b) own = some (d :: own.erase a) := by
  simp [step, h, ha, hb]

theorem step_equal (ha : a ∈ own) (hb : b ∈ own) : step (.equal a b) own = some own := by
  simp [step, ha, hb]

theorem step_call (ha : a ∈ own) (h : r ∉ own.erase a) : step (.call f r a) own = some (r :: own.erase a) := by
  simp [step, h, ha]

end

/-- releasing owned slots one by one: in terms of `Perm` neither distinctness nor a side condition is needed -/
theorem runIns_frees (l : List Slot) {own rest : List Slot} (h : own.Perm (l ++ rest)) :
    ∃ o, runIns (l.map .free) own = some o ∧ o.Perm rest := by
  induction l generalizing own with
  | nil => exact ⟨own, rfl, h⟩
  | cons a l ih =>
    obtain ⟨o, ho, hp⟩ := ih (own := own.erase a) (by simpa using h.erase a)
    exact ⟨o, by simp [step_free (h.mem_iff.mpr List.mem_cons_self), ho], hp⟩

theorem frees_flat (scs : List Scope) : scs.flatMap Scope.frees = (flatS scs).map Ins.free := by
  induction scs with
  | nil => rfl
  | cons s r ih => simp [Scope.frees, ih]

theorem invT_iff {scs : List Scope} {own : List Slot} : InvT scs own ↔ own.Perm (flatS scs) ∧ (flatS scs).Nodup :=
  ⟨fun h => ⟨(List.perm_ext_iff_of_nodup h.nd h.fnd).mpr h.mem, h.fnd⟩,
   fun ⟨p, n⟩ => ⟨p.nodup_iff.mpr n, n, fun _ => p.mem_iff⟩⟩

theorem InvT.of_flat {A B : List Scope} {own : List Slot} (h : InvT A own) (hf : flatS B = flatS A) : InvT B own :=
  ⟨h.nd, hf ▸ h.fnd, fun x => hf ▸ h.mem x⟩

theorem exit_scopes (a b : List Scope) (own : List Slot) (h : InvT (a ++ b) own) :
    ∃ o, runIns (a.flatMap Scope.frees) own = some o ∧ InvT b o := by
  rw [invT_iff, flatS_append] at h
  obtain ⟨o, ho, hp⟩ := runIns_frees (flatS a) h.1
  exact ⟨o, by rw [frees_flat, ho], invT_iff.mpr ⟨hp, (List.nodup_append.mp h.2).2.1⟩⟩

def Inv (cs : CS) (own : List Slot) : Prop := InvT cs.all own ∧ Bound cs.all cs.next ∧ 0 < cs.next

section
variable {cs cs' : CS} {own own' : List Slot} {d s : Slot}

theorem Inv.heap (h : Inv cs own) : InvT cs.all own := h.1

theorem Inv.next_pos (h : Inv cs own) : 0 < cs.next := h.2.2

/-- the bounds do not mention the heap -/
theorem Inv.same_bounds (h : Inv cs own) (hT : InvT cs.all own') : Inv cs own' := ⟨hT, h.2⟩

theorem Inv.perm (h : Inv cs own) : own.Perm (flatS cs.all) := (invT_iff.mp h.1).1

theorem Inv.mem_lt (h : Inv cs own) {x : Nat} (hx : x ∈ own) : 0 < x ∧ x < cs.next :=
  h.2.1 _ ((h.1.mem _).mp hx)

theorem Inv.fresh_not_mem (h : Inv cs own) : cs.next ∉ own :=
  fun hm => Nat.lt_irrefl _ (h.mem_lt hm).2

theorem Inv.of_perm (h : Inv cs own) (ho : own'.Perm own) (hf : (flatS cs'.all).Perm (flatS cs.all)) (hn : cs.next ≤ cs'.next) :
    Inv cs' own' :=
  ⟨invT_iff.mpr ⟨ho.trans (h.perm.trans hf.symm), hf.nodup_iff.mpr h.1.fnd⟩,
   fun x hx => have b := h.2.1 x (hf.mem_iff.mp hx); ⟨b.1, Nat.lt_of_lt_of_le b.2 hn⟩,
   Nat.lt_of_lt_of_le h.2.2 hn⟩

theorem Inv.of_flat (h : Inv cs own) (hf : flatS cs'.all = flatS cs.all) (hn : cs.next ≤ cs'.next) : Inv cs' own :=
  h.of_perm (.refl _) (hf ▸ .refl _) hn

theorem Inv.setNext (h : Inv cs own) {n : Nat} (hn : cs.next ≤ n) : Inv { cs with next := n } own := h.of_flat rfl hn

theorem Inv.push (h : Inv cs own) : Inv cs.push own := h.of_flat rfl (Nat.le_refl _)

theorem Inv.addVar (h : Inv cs own) (hd : d ∉ own) (hd0 : 0 < d) (hdn : d < cs.next) : Inv (cs.addVar d) (d :: own) :=
  ⟨invT_iff.mpr ⟨h.perm.cons d, List.nodup_cons.mpr ⟨fun hm => hd (h.perm.mem_iff.mpr hm), h.1.fnd⟩⟩,
   fun x hx => (List.mem_cons.mp hx).elim (fun e => e ▸ (⟨hd0, hdn⟩ : 0 < d ∧ d < cs.next)) (h.2.1 x),
   h.2.2⟩

theorem flatS_addTemp (cs : CS) (d : Slot) : (flatS (cs.addTemp d).all).Perm (d :: flatS cs.all) := by
  show (cs.cur.vars ++ (cs.cur.temps ++ [d]) ++ flatS cs.outer).Perm (d :: (cs.cur.vars ++ cs.cur.temps ++ flatS cs.outer))
  rw [← List.append_assoc, List.append_assoc _ [d]]
  exact List.perm_middle

theorem Inv.addTemp (h : Inv cs own) (hd : d ∉ own) (hd0 : 0 < d) (hdn : d < cs.next) : Inv (cs.addTemp d) (d :: own) :=
  (h.addVar hd hd0 hdn).of_perm (.refl _) (flatS_addTemp cs d) (Nat.le_refl _)

theorem flatS_claimTemp (hs : s ∈ cs.cur.temps) : (flatS cs.all).Perm (s :: flatS (cs.claimTemp s).all) :=
  (((List.perm_cons_erase hs).append_left _).append_right _).trans (List.perm_middle.append_right _)

theorem Inv.claimTemp (h : Inv cs own) (hs : s ∈ cs.cur.temps) : Inv (cs.claimTemp s) (own.erase s) :=
  have p := flatS_claimTemp hs
  ⟨invT_iff.mpr ⟨by simpa using (h.perm.trans p).erase s, (List.nodup_cons.mp (p.nodup_iff.mp h.1.fnd)).2⟩,
   fun x hx => h.2.1 x (p.mem_iff.mpr (List.mem_cons_of_mem _ hx)),
   h.2.2⟩

theorem flatS_pop (cs : CS) : flatS cs.pop.all = flatS cs.outer := by
  cases h : cs.outer <;> simp [CS.pop, CS.all, h]

theorem Inv.exit (h : Inv cs own) : ∃ o, runIns cs.cur.frees own = some o ∧ Inv cs.pop o := by
  obtain ⟨o, ho, hT⟩ := exit_scopes [cs.cur] cs.outer own h.1
  exact ⟨o, by simpa using ho, hT.of_flat (flatS_pop cs),
    fun x hx => h.2.1 x (List.mem_append_right _ (by rwa [flatS_pop] at hx)), h.2.2⟩

end

/-- what compiling an expression or a condition leaves unchanged in the compile-time state -/
structure Frame (cs cs' : CS) : Prop where
  vars : cs'.cur.vars = cs.cur.vars
  outer : cs'.outer = cs.outer
  loops : cs'.loops = cs.loops
  next : cs.next ≤ cs'.next

theorem Frame.refl (cs : CS) : Frame cs cs := ⟨rfl, rfl, rfl, Nat.le_refl _⟩

theorem Frame.trans {a b c : CS} (h1 : Frame a b) (h2 : Frame b c) : Frame a c :=
  ⟨h2.vars.trans h1.vars, h2.outer.trans h1.outer, h2.loops.trans h1.loops, Nat.le_trans h1.next h2.next⟩

theorem Frame.visible {a b : CS} (h : Frame a b) : b.visible = a.visible := by
  simp [CS.visible, CS.all, h.vars, h.outer]

theorem Frame.setNext {cs : CS} {n : Nat} (h : cs.next ≤ n) : Frame cs { cs with next := n } := ⟨rfl, rfl, rfl, h⟩
theorem Frame.addTemp (cs : CS) (d : Slot) : Frame cs (cs.addTemp d) := ⟨rfl, rfl, rfl, Nat.le_refl _⟩
theorem Frame.claimTemp (cs : CS) (s : Slot) : Frame cs (cs.claimTemp s) := ⟨rfl, rfl, rfl, Nat.le_refl _⟩

theorem claimOrCopy_frame (cs : CS) (d v : Slot) (t : Bool) : Frame cs (claimOrCopy cs d v t).2 := by
  cases t <;> exact ⟨rfl, rfl, rfl, Nat.le_refl _⟩

/-! Here and below the cases of `compileE`, `compileC`, `compileS`, `compileBlock` and `compileStmts` that bind with pattern-
matching `let`s are restated with projections, so that `rw` exposes code and state (those of the mutual, well-founded
recursion do not unfold by `rfl`; for the other cases `rw [compileS]` does). -/

/-- the two branches register the same result; they differ in the last instructions and in the slot for the copy -/
theorem compileE_concat (a b : Ex) (cs : CS) : compileE (.concat a b) cs =
    let ra := compileE a cs
    let rb := compileE b ra.cs
    let r := rb.cs.next
    ⟨ra.code ++ rb.code ++ (if ra.isTemp then [.concatT r ra.slot rb.slot] else [.copy (r + 1) ra.slot, .concatC r (r + 1) rb.slot]),
     r, true, ({ rb.cs with next := r + 1 + if ra.isTemp then 0 else 1 } : CS).addTemp r⟩ := by
  rw [compileE]
  dsimp only
  cases (compileE a cs).isTemp <;> rfl

theorem compileE_call (f : Nat) (a : Ex) (cs : CS) : compileE (.call f a) cs =
    let ra := compileE a { cs with next := cs.next + 1 }
    let cc := claimOrCopy { ra.cs with next := ra.cs.next + 1 } ra.cs.next ra.slot ra.isTemp
    ⟨ra.code ++ cc.1 ++ [.call f cs.next ra.cs.next], cs.next, true, cc.2.addTemp cs.next⟩ := rfl

theorem compileC_and (c d : Cond) (cs : CS) : compileC (.and c d) cs =
    let c1 := compileC c cs
    let d1 := compileC d c1.2.push
    (.seq c1.1 (.choice (.seq d1.1 (Code.ofList d1.2.cur.frees)) .skip), d1.2.pop) := rfl

theorem compileE_frame (e : Ex) : ∀ cs : CS, Frame cs (compileE e cs).cs := by
  induction e with
  | lit => exact fun cs => (Frame.setNext (Nat.le_succ _)).trans (Frame.addTemp _ _)
  | var k => exact fun cs => Frame.refl _
  | concat a b iha ihb =>
    intro cs
    rw [compileE_concat]
    exact (iha cs).trans ((ihb _).trans
      ((Frame.setNext (Nat.le_add_right_of_le (Nat.le_succ _))).trans (Frame.addTemp _ _)))
  | call f a iha =>
    intro cs
    rw [compileE_call]
    exact (Frame.setNext (Nat.le_succ _)).trans ((iha _).trans ((Frame.setNext (Nat.le_succ _)).trans
      ((claimOrCopy_frame _ _ _ _).trans (Frame.addTemp _ _))))

@[simp] theorem unbump_bump (l : List Nat) : unbump (bump l) = l := by
  cases l <;> simp [bump, unbump]

@[simp] theorem visible_push (cs : CS) : cs.push.visible = cs.visible := rfl

theorem pop_eq {cs cs' : CS} (ho : cs'.outer = cs.push.outer) (hl : cs'.loops = cs.push.loops) :
    cs'.pop = { cs with next := cs'.next } := by
  simp [CS.pop, ho, hl, CS.push]

theorem Frame.push_pop {cs cs' : CS} (h : Frame cs.push cs') : Frame cs cs'.pop := by
  rw [pop_eq h.outer h.loops]; exact Frame.setNext h.next

theorem compileC_frame (c : Cond) : ∀ cs : CS, Frame cs (compileC c cs).2 := by
  induction c with
  | prim => exact fun cs => Frame.refl cs
  | eq a b => exact fun cs => (compileE_frame a cs).trans (compileE_frame b _)
  | and c d ihc ihd => exact fun cs => (ihc cs).trans (ihd _).push_pop

theorem visible_sub_flat (cs : CS) : ∀ x, x ∈ cs.visible → x ∈ flatS cs.all := by
  intro x hx
  simp only [CS.visible, List.mem_flatMap] at hx
  obtain ⟨sc, hsc, hx⟩ := hx
  exact List.mem_flatMap.mpr ⟨sc, hsc, List.mem_append_left _ hx⟩

theorem lookup_mem {cs : CS} {own : List Slot} (h : Inv cs own) {k : Nat} (hk : k < cs.visible.length) : cs.lookup k ∈ own := by
  apply (h.heap.mem _).mpr
  apply visible_sub_flat
  simp only [CS.lookup, List.getD_eq_getElem?_getD, List.getElem?_eq_getElem hk, Option.getD_some]
  exact List.getElem_mem hk

/-- what evaluating an expression does to the heap: nothing that was owned is given up, what is new has a new slot, and the
value sits in a slot that is owned — by a fresh temporary of the current scope if `isTemp` -/
structure EOk (cs : CS) (own : List Slot) (r : ERes) (own' : List Slot) : Prop where
  run : runIns r.code own = some own'
  inv : Inv r.cs own'
  slot : r.slot ∈ own'
  temp : r.isTemp = true → r.slot ∈ r.cs.cur.temps ∧ r.slot ∉ own
  keep : ∀ x, x ∈ own → x ∈ own'
  fresh : ∀ x, x < cs.next → x ∈ own' → x ∈ own

/-- `claimOrCopy` makes `dest` own the value without registering it anywhere -/
theorem claimOrCopy_ok {cs : CS} {own : List Slot} {dest val : Slot} {t : Bool} (h : Inv cs own) (hv : val ∈ own)
    (ht : t = true → val ∈ cs.cur.temps) (hd : dest ∉ own) :
    ∃ own', runIns (claimOrCopy cs dest val t).1 own = some (dest :: own') ∧ Inv (claimOrCopy cs dest val t).2 own' ∧
      (∀ x, x ∈ own' → x ∈ own) ∧ (∀ x, x ∈ own → (t = true → x ≠ val) → x ∈ own') := by
  cases t with
  | true =>
    have hd' : dest ∉ own.erase val := fun hm => hd (List.mem_of_mem_erase hm)
    exact ⟨own.erase val, by simp [claimOrCopy, step_move hv hd'], h.claimTemp (ht rfl),
      fun _ => List.mem_of_mem_erase, fun x hx hne => (List.mem_erase_of_ne (hne rfl)).mpr hx⟩
  | false => exact ⟨own, by simp [claimOrCopy, step_copy hv hd], h, fun _ hx => hx, fun _ hx _ => hx⟩

/-- an expression whose value is a temporary registered last: `lit`, `concat` and `call` all end this way -/
theorem EOk.of_temp {cs cs1 : CS} {own own1 : List Slot} {code : List Ins} {r : Slot} (h : Inv cs own)
    (hrun : runIns code own = some (r :: own1)) (h1 : Inv cs1 own1) (hr : r ∉ own1) (hlo : cs.next ≤ r) (hhi : r < cs1.next)
    (keep : ∀ x, x ∈ own → x ∈ own1) (fresh : ∀ x, x < cs.next → x ∈ own1 → x ∈ own) :
    EOk cs own ⟨code, r, true, cs1.addTemp r⟩ (r :: own1) where
  run := hrun
  inv := h1.addTemp hr (Nat.lt_of_lt_of_le h.next_pos hlo) hhi
  slot := List.mem_cons_self
  temp := fun _ => ⟨List.mem_append_right _ List.mem_cons_self, fun hm => Nat.lt_irrefl _ (Nat.lt_of_lt_of_le (h.mem_lt hm).2 hlo)⟩
  keep := fun x hx => List.mem_cons_of_mem _ (keep x hx)
  fresh := fun x hx hm => (List.mem_cons.mp hm).elim (fun e => absurd (e ▸ hx) (Nat.not_lt.mpr hlo)) (fresh x hx)

theorem compileE_ok (e : Ex) : ∀ (cs : CS) (own : List Slot), Inv cs own → wfE e cs.visible.length = true →
    ∃ own', EOk cs own (compileE e cs) own' := by
  induction e with
  | lit =>
    intro cs own h _
    exact ⟨_, .of_temp h (by simp [step_fromConst h.fresh_not_mem]) (h.setNext (Nat.le_succ _)) h.fresh_not_mem
      (Nat.le_refl _) (Nat.lt_succ_self _) (fun _ hx => hx) (fun _ _ hx => hx)⟩
  | var k =>
    intro cs own h hw
    exact ⟨own, rfl, h, lookup_mem h (of_decide_eq_true hw), nofun, fun _ hx => hx, fun _ _ hx => hx⟩
  | concat a b iha ihb =>
    intro cs own h hw
    simp only [wfE, Bool.and_eq_true] at hw
    obtain ⟨own1, ha⟩ := iha cs own h hw.1
    have fa := compileE_frame a cs
    obtain ⟨own2, hb⟩ := ihb _ own1 ha.inv (fa.visible ▸ hw.2)
    have fb := compileE_frame b (compileE a cs).cs
    have hsa := hb.keep _ ha.slot
    have hr := hb.inv.fresh_not_mem
    rw [compileE_concat]
    refine ⟨_, .of_temp h (own1 := own2) ?_ (hb.inv.setNext (Nat.le_add_right_of_le (Nat.le_succ _))) hr
      (Nat.le_trans fa.next fb.next) (Nat.lt_add_right _ (Nat.lt_succ_self _))
      (fun x hx => hb.keep x (ha.keep x hx))
      (fun x hx hm => ha.fresh x hx (hb.fresh x (Nat.lt_of_lt_of_le hx fa.next) hm))⟩
    rw [runIns_append (runIns_append ha.run ▸ hb.run)]
    split
    · simp [step_concatT hsa hb.slot hr]
    · have hd : (compileE b (compileE a cs).cs).cs.next + 1 ∉ own2 := fun hm => Nat.not_succ_lt_self (hb.inv.mem_lt hm).2
      simp [step_copy hsa hd, step_concatC List.mem_cons_self (List.mem_cons_of_mem _ hb.slot) (by simpa using hr)]
  | call f a iha =>
    intro cs own h hw
    obtain ⟨own1, ha⟩ := iha { cs with next := cs.next + 1 } own (h.setNext (Nat.le_succ _)) hw
    have fa := compileE_frame a { cs with next := cs.next + 1 }
    have hret : cs.next ∉ own1 := fun hm => h.fresh_not_mem (ha.fresh _ (Nat.lt_succ_self _) hm)
    rw [compileE_call]
    generalize compileE a { cs with next := cs.next + 1 } = ra at ha fa
    obtain ⟨own2, hrun, hinv, hsub, hkeep⟩ :=
      claimOrCopy_ok (ha.inv.setNext (Nat.le_succ _)) ha.slot (fun t => (ha.temp t).1) ha.inv.fresh_not_mem
    have hret2 : cs.next ∉ own2 := fun hm => hret (hsub _ hm)
    refine ⟨_, .of_temp h ?_ hinv hret2 (Nat.le_refl _)
      (Nat.lt_of_succ_le (Nat.le_trans fa.next (Nat.le_trans (Nat.le_succ _)
        (claimOrCopy_frame { ra.cs with next := ra.cs.next + 1 } _ _ _).next)))
      (fun x hx => hkeep x (ha.keep x hx) (fun t e => (ha.temp t).2 (e ▸ hx)))
      (fun x hx hm => ha.fresh x (Nat.lt_succ_of_lt hx) (hsub x hm))⟩
    rw [runIns_append (runIns_append ha.run ▸ hrun)]
    simp [step_call List.mem_cons_self (by simpa using hret2)]

/-- code of a condition never jumps: the triple holds for every `J` and `R` -/
theorem compileC_ok {J R : List Slot → Prop} (c : Cond) : ∀ cs : CS, wfC c cs.visible.length = true →
    Triple (Inv cs) (compileC c cs).1 (Inv (compileC c cs).2) J R := by
  induction c with
  | prim => exact fun cs _ fuel path own h => sat_skip h
  | eq a b =>
    intro cs hw fuel path own h
    simp only [wfC, Bool.and_eq_true] at hw
    obtain ⟨own1, ha⟩ := compileE_ok a cs own h hw.1
    obtain ⟨own2, hb⟩ := compileE_ok b _ own1 ha.inv ((compileE_frame a cs).visible ▸ hw.2)
    refine sat_ofList ?_ hb.inv
    rw [runIns_append (runIns_append ha.run ▸ hb.run)]
    simp [step_equal (hb.keep _ ha.slot) hb.slot]
  | and c d ihc ihd =>
    intro cs hw fuel path own h
    simp only [wfC, Bool.and_eq_true] at hw
    have fc := compileC_frame c cs
    have fd := compileC_frame d (compileC c cs).2.push
    have e := pop_eq fd.outer fd.loops
    simp only [compileC_and]
    refine sat_seq (ihc cs hw.1 fuel path own h) fun own1 path1 h1 => sat_choice (fun p => ?_) (fun p => ?_)
    · refine sat_seq (ihd _ (fc.visible ▸ hw.2) fuel p own1 h1.push) fun own2 path2 h2 => ?_
      obtain ⟨o, ho, hinv⟩ := h2.exit
      exact sat_ofList ho hinv
    · exact sat_skip (e ▸ h1.setNext fd.next)

/-- a statement may declare a variable: what is left of `Frame` is what lies outside the current scope -/
structure FrameS (cs cs' : CS) : Prop where
  outer : cs'.outer = cs.outer
  loops : cs'.loops = cs.loops
  next : cs.next ≤ cs'.next

theorem FrameS.trans {a b c : CS} (h1 : FrameS a b) (h2 : FrameS b c) : FrameS a c :=
  ⟨h2.outer.trans h1.outer, h2.loops.trans h1.loops, Nat.le_trans h1.next h2.next⟩

/-- a statement that declares nothing -/
theorem Frame.stmt {cs cs' : CS} (h : Frame cs cs') : FrameS cs cs' ∧ cs'.visible.length = cs.visible.length :=
  ⟨⟨h.outer, h.loops, h.next⟩, congrArg _ h.visible⟩

theorem compileS_decl (e : Ex) (cs : CS) : compileS (.decl e) cs =
    let r := compileE e { cs with next := cs.next + 1 }
    let cc := claimOrCopy r.cs cs.next r.slot r.isTemp
    (Code.ofList (r.code ++ cc.1), cc.2.addVar cs.next) := by rw [compileS]; rfl

theorem compileS_assign (k : Nat) (e : Ex) (cs : CS) : compileS (.assign k e) cs =
    let r := compileE e cs
    let lhs := r.cs.lookup k
    if r.isTemp then (Code.ofList (r.code ++ [.free lhs, .move lhs r.slot]), r.cs.claimTemp r.slot)
    else (Code.ofList (r.code ++ [.copy r.cs.next r.slot, .free lhs, .move lhs r.cs.next]), { r.cs with next := r.cs.next + 1 }) := by
  rw [compileS]; rfl

theorem compileS_ret (e : Ex) (cs : CS) : compileS (.ret e) cs =
    let r := compileE e cs
    let cc := claimOrCopy r.cs retSlot r.slot r.isTemp
    (.seq (Code.ofList (r.code ++ cc.1 ++ cc.2.returnFrees)) .ret, cc.2) := by rw [compileS]

theorem compileS_ite (c : Cond) (t e : Blk) (cs : CS) : compileS (.ite c t e) cs =
    let c1 := compileC c cs
    let t1 := compileBlock t c1.2.push
    let e1 := compileBlock e t1.2.pop.push
    (.seq c1.1 (.choice t1.1 e1.1), e1.2.pop) := by rw [compileS]

theorem compileS_while (c : Cond) (b : Blk) (cs : CS) : compileS (.while c b) cs =
    let c1 := compileC c cs.push
    let b1 := compileBlock b { c1.2.pop.push with loops := 1 :: c1.2.pop.push.loops }
    (.loop (.seq c1.1 (Code.ofList c1.2.cur.frees)) b1.1, { b1.2.pop with loops := c1.2.pop.loops }) := by rw [compileS]

theorem compileBlock_eq (b : Blk) (cs : CS) : compileBlock b cs =
    let r := compileStmts b cs.push
    (if r.2.2 then r.1 else .seq r.1 (Code.ofList r.2.1.cur.frees), r.2.1.pop) := by
  rw [compileBlock]; dsimp only; split <;> simp [*]

theorem compileStmts_cons (s : St) (rest : Blk) (cs : CS) : compileStmts (.cons s rest) cs =
    let r := compileS s cs
    if isRet s then (r.1, r.2, true) else
      let r' := compileStmts rest r.2
      (.seq r.1 r'.1, r'.2.1, r'.2.2) := by rw [compileStmts]

theorem pop_push_next (cs : CS) (n : Nat) : ({ cs.push with next := n } : CS).pop = { cs with next := n } :=
  pop_eq rfl rfl

theorem compileBlock_cs_of (b : Blk) (cs : CS) (h : FrameS cs.push (compileStmts b cs.push).2.1) :
    ∃ n, cs.next ≤ n ∧ (compileBlock b cs).2 = { cs with next := n } :=
  ⟨_, h.next, by rw [compileBlock_eq]; exact pop_eq h.outer h.loops⟩

mutual
  /-- the number of visible variables afterwards is written as `wfB` writes it, so that it rewrites there -/
  theorem compileS_frame : (s : St) → (cs : CS) →
      FrameS cs (compileS s cs).2 ∧
        (compileS s cs).2.visible.length = match s with | .decl _ => cs.visible.length + 1 | _ => cs.visible.length
    | .decl e, cs => by
      rw [compileS_decl]
      have fe := compileE_frame e { cs with next := cs.next + 1 }
      generalize compileE e _ = r at fe ⊢
      have f := fe.trans (claimOrCopy_frame r.cs cs.next r.slot r.isTemp)
      exact ⟨⟨f.outer, f.loops, Nat.le_trans (Nat.le_succ _) f.next⟩, congrArg (fun v => v.length + 1) f.visible⟩
    | .assign k e, cs => by
      rw [compileS_assign]
      dsimp only
      split
      · exact ((compileE_frame e cs).trans (Frame.claimTemp _ _)).stmt
      · exact ((compileE_frame e cs).trans (Frame.setNext (Nat.le_succ _))).stmt
    | .expr e, cs => by rw [compileS]; exact (compileE_frame e cs).stmt
    | .ite c t e, cs => by
      simp only [compileS_ite]
      obtain ⟨nT, hT, eT⟩ := compileBlock_cs_of t _ (compileStmts_frame t _)
      rw [eT, pop_push_next]
      obtain ⟨nE, hE, eE⟩ := compileBlock_cs_of e _ (compileStmts_frame e _)
      rw [eE, pop_push_next]
      exact ((compileC_frame c cs).trans (Frame.setNext (Nat.le_trans hT hE))).stmt
    | .while c b, cs => by
      simp only [compileS_while]
      have fc := compileC_frame c cs.push
      rw [pop_eq fc.outer fc.loops]
      obtain ⟨n, hn, e⟩ := compileBlock_cs_of b _ (compileStmts_frame b _)
      rw [e]
      exact (Frame.setNext (cs := cs) (Nat.le_trans fc.next hn)).stmt
    | .brk, cs => by rw [compileS]; exact (Frame.refl cs).stmt
    | .cont, cs => by rw [compileS]; exact (Frame.refl cs).stmt
    | .ret e, cs => by
      rw [compileS_ret]
      exact ((compileE_frame e cs).trans (claimOrCopy_frame _ _ _ _)).stmt
    | .block b, cs => by
      obtain ⟨n, hn, e⟩ := compileBlock_cs_of b _ (compileStmts_frame b _)
      rw [compileS, e]
      exact (Frame.setNext hn).stmt
  theorem compileStmts_frame : (b : Blk) → (cs : CS) → FrameS cs (compileStmts b cs).2.1
    | .nil, cs => by rw [compileStmts]; exact ⟨rfl, rfl, Nat.le_refl _⟩
    | .cons s rest, cs => by
      rw [compileStmts_cons]
      dsimp only
      split
      · exact (compileS_frame s cs).1
      · exact (compileS_frame s cs).1.trans (compileStmts_frame rest _)
end

theorem compileBlock_cs (b : Blk) (cs : CS) : ∃ n, cs.next ≤ n ∧ (compileBlock b cs).2 = { cs with next := n } :=
  compileBlock_cs_of b cs (compileStmts_frame b _)

/-- the scopes that stay open when the innermost loop is left (or continued) -/
def LTail (cs : CS) : Option (List Scope) :=
  match cs.loops with
  | [] => none
  | d :: _ => some (cs.outer.drop (d - 1))

/-- inside a loop the current scope belongs to the loop body -/
def HW (cs : CS) : Prop := ∀ d r, cs.loops = d :: r → 1 ≤ d

def Jump (lt : Option (List Scope)) (own : List Slot) : Prop := ∃ scs, lt = some scs ∧ InvT scs own

def Ret (own : List Slot) : Prop := own = [retSlot]

theorem ret_frees {cs : CS} {o : List Slot} (h : Inv cs o) : runIns cs.returnFrees (retSlot :: o) = some [retSlot] := by
  obtain ⟨o', ho, hp⟩ := runIns_frees (flatS cs.all) ((h.perm.cons retSlot).trans (List.perm_append_singleton _ _).symm)
  rw [CS.returnFrees, frees_flat, ho, List.perm_singleton.mp hp]

theorem loop_frees {cs : CS} {own : List Slot} (h : Inv cs own) {d : Nat} {r : List Nat} (hl : cs.loops = d :: r) (hd : 1 ≤ d) :
    ∃ o, runIns cs.loopFrees own = some o ∧ InvT (cs.outer.drop (d - 1)) o := by
  obtain ⟨k, rfl⟩ := Nat.exists_eq_add_of_le' hd
  have hsplit : cs.all = cs.all.take (k + 1) ++ cs.outer.drop k := (List.take_append_drop (k + 1) cs.all).symm
  obtain ⟨o, ho, hinv⟩ := exit_scopes _ _ own (hsplit ▸ h.1)
  exact ⟨o, by simpa [CS.loopFrees, hl] using ho, hinv⟩

theorem LTail_push {cs : CS} (h : HW cs) : LTail cs.push = LTail cs := by
  unfold LTail CS.push
  cases hl : cs.loops with
  | nil => rfl
  | cons d r =>
    obtain ⟨k, rfl⟩ := Nat.exists_eq_add_of_le' (h d r hl)
    rfl

/-- the loop context of a statement: `l` says whether a loop encloses it, `lt` which scopes stay open when that loop is left -/
structure InLoop (l : Bool) (lt : Option (List Scope)) (cs : CS) : Prop where
  ne : l = true → cs.loops ≠ []
  hw : HW cs
  lt : LTail cs = lt

theorem InLoop.congr {l : Bool} {lt : Option (List Scope)} {cs cs' : CS} (h : InLoop l lt cs) (ho : cs'.outer = cs.outer)
    (hl : cs'.loops = cs.loops) : InLoop l lt cs' :=
  ⟨fun t => hl ▸ h.ne t, fun d r e => h.hw d r (hl ▸ e), by rw [← h.lt, LTail, LTail, ho, hl]⟩

theorem InLoop.push {l : Bool} {lt : Option (List Scope)} {cs : CS} (h : InLoop l lt cs) : InLoop l lt cs.push :=
  have key : (l = true → bump cs.loops ≠ []) ∧ ∀ d r, bump cs.loops = d :: r → 1 ≤ d := by
    cases hc : cs.loops with
    | nil => exact ⟨fun t => absurd hc (h.ne t), nofun⟩
    | cons d' r' => exact ⟨fun _ => nofun, fun _ _ e => by cases e; exact Nat.le_add_left 1 d'⟩
  ⟨key.1, key.2, (LTail_push h.hw).trans h.lt⟩

/-- `Verlasse die Schleife` / `Fahre mit der Schleife fort`, `j` being `brk` or `cont` -/
theorem jump_ok {N R : List Slot → Prop} {cs : CS} {l : Bool} {lt : Option (List Scope)} (hl : InLoop l lt cs) (ht : l = true)
    {j : Code} (hj : ∀ fuel path own, Jump lt own → Sat N (Jump lt) R (run fuel j path own)) :
    Triple (Inv cs) (.seq (Code.ofList cs.loopFrees) j) N (Jump lt) R := by
  intro fuel path own h
  cases hc : cs.loops with
  | nil => exact absurd hc (hl.ne ht)
  | cons d r =>
    obtain ⟨o, ho, hinv⟩ := loop_frees h hc (hl.hw d r hc)
    exact sat_seq (sat_ofList ho ⟨_, by simp [← hl.lt, LTail, hc], hinv⟩) fun _ p h' => hj fuel p _ h'

section
variable {N J R : List Slot → Prop}

theorem block_ok (b : Blk) (cs : CS)
    (hs : Triple (Inv cs.push) (compileStmts b cs.push).1
      (fun own => (compileStmts b cs.push).2.2 = false ∧ Inv (compileStmts b cs.push).2.1 own) J R) :
    ∃ n, cs.next ≤ n ∧ (compileBlock b cs).2 = { cs with next := n } ∧
      Triple (Inv cs) (compileBlock b cs).1 (Inv { cs with next := n }) J R := by
  obtain ⟨n, hn, e⟩ := compileBlock_cs b cs
  refine ⟨n, hn, e, e ▸ fun fuel path own h => ?_⟩
  have hs := hs fuel path own h.push
  rw [compileBlock_eq]
  dsimp only
  split
  · next hret => exact hs.post fun _ h' => Bool.noConfusion (hret.symm.trans h'.1)
  · exact sat_seq hs fun own' _ h' => let ⟨o, ho, hinv⟩ := h'.2.exit; sat_ofList ho hinv

theorem decl_ok (e : Ex) (cs : CS) (hw : wfE e cs.visible.length = true) :
    Triple (Inv cs) (compileS (.decl e) cs).1 (Inv (compileS (.decl e) cs).2) J R := by
  intro fuel path own h
  obtain ⟨own1, ha⟩ := compileE_ok e { cs with next := cs.next + 1 } own (h.setNext (Nat.le_succ _)) hw
  have fe := compileE_frame e { cs with next := cs.next + 1 }
  have hv : cs.next ∉ own1 := fun hm => h.fresh_not_mem (ha.fresh _ (Nat.lt_succ_self _) hm)
  rw [compileS_decl]
  generalize compileE e _ = ra at ha fe
  obtain ⟨own2, hrun, hinv, hsub, -⟩ := claimOrCopy_ok ha.inv ha.slot (fun t => (ha.temp t).1) hv
  exact sat_ofList (runIns_append ha.run ▸ hrun) (hinv.addVar (fun hm => hv (hsub _ hm)) h.next_pos
    (Nat.lt_of_succ_le (Nat.le_trans fe.next (claimOrCopy_frame ra.cs cs.next ra.slot ra.isTemp).next)))

theorem free_move {own : List Slot} {lhs src : Slot} (hnd : own.Nodup) (hl : lhs ∈ own) (hs : src ∈ own) (hne : src ≠ lhs) :
    ∃ o, runIns [.free lhs, .move lhs src] own = some o ∧ o.Perm (own.erase src) := by
  have hl' : lhs ∉ (own.erase lhs).erase src := fun hm => (hnd.mem_erase_iff.mp (List.mem_of_mem_erase hm)).1 rfl
  refine ⟨lhs :: (own.erase lhs).erase src, by simp [step_free hl, step_move ((List.mem_erase_of_ne hne).mpr hs) hl'], ?_⟩
  rw [List.erase_comm]
  exact (List.perm_cons_erase ((List.mem_erase_of_ne (Ne.symm hne)).mpr hl)).symm

theorem assign_ok (k : Nat) (e : Ex) (cs : CS) (hk : k < cs.visible.length) (hw : wfE e cs.visible.length = true) :
    Triple (Inv cs) (compileS (.assign k e) cs).1 (Inv (compileS (.assign k e) cs).2) J R := by
  intro fuel path own h
  obtain ⟨own1, ha⟩ := compileE_ok e cs own h hw
  -- the variable existed before the value was computed
  have hold : (compileE e cs).cs.lookup k ∈ own := by
    rw [CS.lookup, (compileE_frame e cs).visible]; exact lookup_mem h hk
  have hlhs := ha.keep _ hold
  rw [compileS_assign]
  dsimp only
  split
  · next ht =>
    obtain ⟨o, ho, hp⟩ := free_move ha.inv.heap.nd hlhs ha.slot (fun e' => (ha.temp ht).2 (e' ▸ hold))
    exact sat_ofList (runIns_append ha.run ▸ ho) ((ha.inv.claimTemp (ha.temp ht).1).of_perm hp (.refl _) (Nat.le_refl _))
  · have hc := ha.inv.fresh_not_mem
    obtain ⟨o, ho, hp⟩ := free_move (List.nodup_cons.mpr ⟨hc, ha.inv.heap.nd⟩) (List.mem_cons_of_mem _ hlhs) List.mem_cons_self
      (fun e' => hc (e' ▸ hlhs))
    refine sat_ofList (o := o) ?_ ((ha.inv.setNext (Nat.le_succ _)).of_perm (by simpa using hp) (.refl _) (Nat.le_refl _))
    rw [runIns_append ha.run, runIns_cons, step_copy ha.slot hc]
    exact ho

theorem ret_ok (e : Ex) (cs : CS) (hw : wfE e cs.visible.length = true) :
    Triple (Inv cs) (compileS (.ret e) cs).1 N J Ret := by
  intro fuel path own h
  obtain ⟨own1, ha⟩ := compileE_ok e cs own h hw
  have hr : retSlot ∉ own1 := fun hm => Nat.lt_irrefl 0 (ha.inv.mem_lt hm).1
  obtain ⟨own2, hrun, hinv, -, -⟩ := claimOrCopy_ok ha.inv ha.slot (fun t => (ha.temp t).1) hr
  rw [compileS_ret]
  refine sat_seq (M := Ret) (sat_ofList (o := [retSlot]) ?_ rfl) fun _ _ => sat_ret
  rw [runIns_append (runIns_append ha.run ▸ hrun)]
  exact ret_frees hinv

end

mutual
  theorem compileS_sat : (s : St) → (cs : CS) → (l : Bool) → (lt : Option (List Scope)) →
      wfS s cs.visible.length l = true → InLoop l lt cs →
      Triple (Inv cs) (compileS s cs).1 (Inv (compileS s cs).2) (Jump lt) Ret
    | .decl e, cs, _, _, hw, _ => decl_ok e cs hw
    | .assign k e, cs, _, _, hw, _ => by
      simp only [wfS, Bool.and_eq_true, decide_eq_true_eq] at hw
      exact assign_ok k e cs hw.1 hw.2
    | .expr e, cs, _, _, hw, _ => fun fuel path own h => by
      obtain ⟨own1, ha⟩ := compileE_ok e cs own h hw
      rw [compileS]
      exact sat_ofList ha.run ha.inv
    | .ret e, cs, _, _, hw, _ => ret_ok e cs hw
    | .brk, cs, l, lt, hw, hl => by
      rw [compileS]; exact jump_ok hl hw fun _ _ _ => sat_brk
    | .cont, cs, l, lt, hw, hl => by
      rw [compileS]; exact jump_ok hl hw fun _ _ _ => sat_cont
    | .block b, cs, l, lt, hw, hl => by
      obtain ⟨n, -, e, hb⟩ := block_ok b cs (compileStmts_sat b cs.push l lt hw hl.push)
      rw [compileS, e]
      exact hb
    | .ite c t e, cs, l, lt, hw, hl => by
      simp only [wfS, Bool.and_eq_true] at hw
      have fc := compileC_frame c cs
      have hc := compileC_ok (J := Jump lt) (R := Ret) c cs hw.1.1
      simp only [compileS_ite]
      generalize (compileC c cs).2 = cs1 at fc hc
      have hl1 := hl.congr fc.outer fc.loops
      obtain ⟨nT, hT, eT, ht⟩ := block_ok t cs1.push
        (compileStmts_sat t _ l lt (fc.visible ▸ hw.1.2) hl1.push.push)
      rw [eT, pop_push_next]
      obtain ⟨nE, hE, eE, he⟩ := block_ok e ({ cs1 with next := nT } : CS).push
        (compileStmts_sat e _ l lt (fc.visible ▸ hw.2)
          (hl1.congr (cs' := { cs1 with next := nT }) rfl rfl).push.push)
      rw [eE, pop_push_next]
      exact fun fuel path own h => sat_seq (hc fuel path own h) fun own1 _ h1 => sat_choice
        (fun p => (ht fuel p own1 h1.push).post fun _ h' => h'.of_flat rfl hE)
        (fun p => (he fuel p own1 (h1.setNext hT).push).post fun _ h' => h'.of_flat rfl (Nat.le_refl _))
    | .while c b, cs, l, lt, hw, hl => by
      simp only [wfS, Bool.and_eq_true] at hw
      have fc := compileC_frame c cs.push
      have hc := compileC_ok (J := fun _ => False) (R := fun _ => False) c cs.push hw.1
      have e1 := pop_eq fc.outer fc.loops
      simp only [compileS_while]
      rw [e1]
      generalize (compileC c cs.push).2 = cs1 at fc hc e1
      -- in the block of the body `loops = 2 :: _`: a jump releases its scope and the body's, the scopes `cs.all` stay open
      obtain ⟨n, hn, e, hb⟩ := block_ok (J := Jump (some cs.all)) (R := Ret) b
        { ({ cs with next := cs1.next } : CS).push with loops := 1 :: ({ cs with next := cs1.next } : CS).push.loops }
        (compileStmts_sat b _ true (some cs.all) hw.2 ⟨fun _ => nofun, fun d r hl' => by cases hl'; exact Nat.le_succ 1, rfl⟩)
      rw [e]
      intro fuel path own h
      -- the loop invariant is `Inv cs`: its bounds do not mention the heap and are put back after every round (`same_bounds`)
      refine (Triple.loop (I := Inv cs) (fun fuel path own h' => ?_) (fun fuel path own h' => ?_) fuel path own h).post
        fun _ h' => h'.setNext (Nat.le_trans fc.next hn)
      · exact sat_seq (hc fuel path own h'.push) fun own1 _ h1 =>
          let ⟨o, ho, hinv⟩ := h1.exit; sat_ofList ho (h.same_bounds (e1 ▸ hinv).heap)
      · exact (hb fuel path own (h'.setNext fc.next).push).mono (fun _ h1 => h.same_bounds (h1.heap.of_flat rfl))
          (fun _ ⟨_, es, h1⟩ => h.same_bounds (Option.some.inj es ▸ h1)) (fun _ h1 => h1)
  theorem compileStmts_sat : (b : Blk) → (cs : CS) → (l : Bool) → (lt : Option (List Scope)) →
      wfB b cs.visible.length l = true → InLoop l lt cs →
      Triple (Inv cs) (compileStmts b cs).1 (fun own => (compileStmts b cs).2.2 = false ∧ Inv (compileStmts b cs).2.1 own)
        (Jump lt) Ret
    | .nil, cs, _, _, _, _ => fun fuel path own h => by rw [compileStmts]; exact sat_skip ⟨rfl, h⟩
    | .cons s rest, cs, l, lt, hw, hl => by
      simp only [wfB, Bool.and_eq_true] at hw
      intro fuel path own h
      rw [compileStmts_cons]
      dsimp only
      split
      · next hret =>
        -- a `ret` never ends normally
        cases s with
        | ret e => exact ret_ok e cs hw.1 fuel path own h
        | _ => cases hret
      · have fs := compileS_frame s cs
        exact sat_seq (compileS_sat s cs l lt hw.1 hl fuel path own h) fun own1 path1 h1 =>
          compileStmts_sat rest _ l lt (fs.2 ▸ hw.2) (hl.congr fs.1.outer fs.1.loops) fuel path1 own1 h1
end

/-- the postconditions of `compileS_sat`, written out per outcome -/
def Post (cs' : CS) (lt : Option (List Scope)) (o : Out) : Prop :=
  match o with
  | .err _ => False
  | .normal own _ => Inv cs' own
  | .brk own _ => ∃ scs, lt = some scs ∧ InvT scs own
  | .cont own _ => ∃ scs, lt = some scs ∧ InvT scs own
  | .ret own => own = [retSlot]
  | .timeout => True

theorem Post.of_eq {cs' : CS} {lt : Option (List Scope)} {o o' : Out} (h : Post cs' lt o) (e : o' = o) : Post cs' lt o' := e ▸ h

theorem post_iff {cs' : CS} {lt : Option (List Scope)} {o : Out} : Post cs' lt o ↔ Sat (Inv cs') (Jump lt) Ret o := by
  cases o <;> exact Iff.rfl

theorem compileS_ok : (s : St) → (cs : CS) → (own : List Slot) → (fuel : Nat) → (path : List Bool) → (l : Bool) →
      Inv cs own → wfS s cs.visible.length l = true → (l = true → cs.loops ≠ []) → HW cs →
      Post (compileS s cs).2 (LTail cs) (run fuel (compileS s cs).1 path own) :=
  fun s cs own fuel path l h hw hl hhw => post_iff.mpr (compileS_sat s cs l _ hw ⟨hl, hhw, rfl⟩ fuel path own h)

end DDP.Own
