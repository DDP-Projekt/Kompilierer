import DDP.Impl.Lowering
import DDP.Proofs.Types

/-! How `toIr` and the checker's predicates see a type: both only through `GetUnderlying`.
The views below say what an operand the checker has validated looks like on both sides. -/

namespace DDP.Lowering
open DDP.Types DDP.Checker

theorem trueUnderlying_getUnderlying (t : Ty) : trueUnderlying (getUnderlying t) = trueUnderlying t := by
  induction t with
  | alias u ih => exact ih
  | list e => exact congrArg Ty.list (getUnderlying_idem e)
  | _ => rfl

theorem toIr_getUnderlying (t : Ty) : toIr (getUnderlying t) = toIr t := by
  unfold toIr; rw [trueUnderlying_getUnderlying]

theorem toIr_congr {a b : Ty} (h : getUnderlying a = getUnderlying b) : toIr a = toIr b := by
  rw [← toIr_getUnderlying a, h, toIr_getUnderlying]

theorem toIr_of_equal {a b : Ty} (h : equal a b = true) : toIr a = toIr b :=
  toIr_congr ((equal_iff a b).1 h)

theorem toIr_zahl : toIr zahl = some .int := rfl
theorem toIr_komma : toIr komma = some .float := rfl
theorem toIr_byte : toIr byte = some .byte := rfl
theorem toIr_wahr : toIr wahr = some .bool := rfl
theorem toIr_text : toIr text = some .string := rfl
theorem toIr_buchstabe : toIr buchstabe = some .char := rfl

def primIr : Prim → IrTy
  | .zahl => .int | .komma => .float | .byte => .byte | .wahr => .bool | .buchstabe => .char | .text => .string

theorem toIr_of_prim {t : Ty} {p : Prim} (h : getUnderlying t = .prim p) : toIr t = some (primIr p) := by
  rw [← toIr_getUnderlying, h]; cases p <;> rfl

/-- an operand that passed `validate(ps)`; `[zahl, byte]` unfolds to `[.zahl, .byte].map .prim` -/
theorem prim_view (ps : List Prim) {t : Ty} {i : IrTy} (hv : isOneOf t (ps.map .prim) = true)
    (hi : toIr t = some i) : ∃ p ∈ ps, getUnderlying t = .prim p ∧ i = primIr p := by
  obtain ⟨_, hs, hg⟩ := isOneOf_iff.1 hv
  obtain ⟨p, hp, rfl⟩ := List.mem_map.1 hs
  exact ⟨p, hp, hg, Option.some.inj (hi.symm.trans (toIr_of_prim hg))⟩

abbrev numeric : List Prim := [.zahl, .komma, .byte]
abbrev intLike : List Prim := [.zahl, .byte]

theorem validated2 (ps : List Prim) {l r : Ty} {li ri : IrTy} (hv : validate2 l r (ps.map .prim) = true)
    (hl : toIr l = some li) (hr : toIr r = some ri) :
    ∃ p ∈ ps, ∃ q ∈ ps, getUnderlying l = .prim p ∧ getUnderlying r = .prim q ∧ li = primIr p ∧ ri = primIr q := by
  simp only [validate2, Bool.and_eq_true] at hv
  obtain ⟨p, hp, gl, il⟩ := prim_view ps hv.1 hl
  obtain ⟨q, hq, gr, ir⟩ := prim_view ps hv.2 hr
  exact ⟨p, hp, q, hq, gl, gr, il, ir⟩

theorem numericIr_of {t : Ty} {i : IrTy} (h : isOneOf t [zahl, komma, byte] = true) (hi : toIr t = some i) :
    numericIr i = true := by
  obtain ⟨p, hp, -, rfl⟩ := prim_view numeric h hi
  exact (by decide : ∀ p ∈ numeric, numericIr (primIr p) = true) p hp

theorem isNumeric_eq_isOneOf (t : Ty) : isNumeric t = isOneOf t [zahl, komma, byte] := by
  unfold isNumeric isOneOf equal
  generalize getUnderlying t = n
  cases n with
  | prim p => cases p <;> rfl
  | _ => rfl

theorem toIr_list (e : Ty) : toIr (.list e) = (elemIr (trueUnderlying e)).map .list := by
  simp only [toIr, trueUnderlying, trueUnderlying_getUnderlying]

theorem toIr_list_some {e : Ty} {i : IrTy} (h : toIr (.list e) = some i) : ∃ x, i = .list x ∧ toIr e = some x := by
  rw [toIr_list] at h
  unfold toIr
  generalize trueUnderlying e = u at h ⊢
  cases u with
  | prim p => cases p <;> cases h <;> exact ⟨_, rfl, rfl⟩
  | «variable» | struct k => cases h; exact ⟨_, rfl, rfl⟩
  | _ => cases h

theorem toIr_elem {l e : Ty} {i : IrTy} (g : getUnderlying l = .list e) (hi : toIr l = some i) :
    ∃ x, i = .list x ∧ toIr e = some x :=
  toIr_list_some (g ▸ (toIr_getUnderlying l).trans hi)

/-- an operand that passed the guard of `len`, indexing and slicing -/
theorem seq_view {l : Ty} {li : IrTy} (h : (isList l || equal l text) = true) (hl : toIr l = some li) :
    (∃ e x, getUnderlying l = .list e ∧ li = .list x ∧ toIr e = some x) ∨
    (getUnderlying l = text ∧ li = .string) := by
  rcases Bool.or_eq_true .. ▸ h with h | h
  · obtain ⟨e, hg⟩ := (isList_iff l).1 h
    obtain ⟨x, hx⟩ := toIr_elem hg hl
    exact .inl ⟨e, x, hg, hx⟩
  · have hg := (equal_iff l text).1 h
    exact .inr ⟨hg, Option.some.inj (hl.symm.trans (toIr_of_prim hg))⟩

/-- the result type `if isList l then l else text` of the slicing rules has the operand's IR type,
and that passes the guard of the lowering -/
theorem seq_operand {l : Ty} {li : IrTy} (h : (isList l || equal l text) = true) (hl : toIr l = some li) :
    toIr (if isList l = true then l else text) = some li ∧ (li = .string || isListIr li) = true := by
  rcases seq_view h hl with ⟨e, _, g, rfl, -⟩ | ⟨g, rfl⟩
  · exact ⟨by rw [if_pos ((isList_iff l).2 ⟨e, g⟩), hl], rfl⟩
  · exact ⟨by rw [if_neg (by simp [isList, g, text])]; rfl, rfl⟩

/-- a type the checker does not see through: a definition whose base is (an alias of) Text
or a list.  For such operands the checker's view (opaque scalar) and the IR view differ. -/
def OpaqueTextOrList (t : Ty) : Prop :=
  ∃ j u, getUnderlying t = .typedef j u ∧ (toIr t = some .string ∨ ∃ e, toIr t = some (.list e))

/-- An operand of `verkettet mit` that the checker sees through is a list on both sides, or
a scalar on both sides, and then Text on both sides or on neither. -/
theorem concat_view {t : Ty} {i : IrTy} (ho : ¬ OpaqueTextOrList t) (hi : toIr t = some i) :
    (∃ x, i = .list x ∧ isList t = true ∧ toIr (listElem t) = some x) ∨
    (isListIr i = false ∧ isList t = false ∧ listElem t = t ∧ equal t text = decide (i = .string)) := by
  unfold isList equal listElem
  cases g : getUnderlying t with
  | list e =>
    obtain ⟨x, rfl, he⟩ := toIr_elem g hi
    exact .inl ⟨x, rfl, rfl, he⟩
  | typedef j u =>
    refine .inr ⟨?_, rfl, rfl, (decide_eq_false fun (e : i = .string) => ho ⟨j, u, g, .inl (e ▸ hi)⟩).symm⟩
    cases i with
    | list e => exact absurd ⟨j, u, g, .inr ⟨e, hi⟩⟩ ho
    | _ => rfl
  | alias u => exact absurd g (getUnderlying_ne_alias t u)
  | prim p =>
    cases hi.symm.trans (toIr_of_prim g)
    exact .inr ⟨by cases p <;> rfl, rfl, rfl, by cases p <;> rfl⟩
  | _ =>
    have hi' := (toIr_getUnderlying t).trans hi
    rw [g] at hi'; cases hi'
    exact .inr ⟨rfl, rfl, rfl, rfl⟩

end DDP.Lowering
