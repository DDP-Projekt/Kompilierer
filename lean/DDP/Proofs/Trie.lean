import DDP.Proofs.OrderedMap

/-!
The alias trie on top of the sorted-slice map: `Insert` is `Get`/`Set` on the children of one node (`insert_cons`), so
what holds of the map under `Compat` carries over by induction along the key sequence: `WF` is kept (`insert_wf`), and
the store is read back as from an association list keyed by `keysEq` (`aliasExists_insert`).
-/

namespace DDP.Trie
open DDP.OMap
variable {K V : Type}

theorem insert_cons (eq less : K → K → Bool) (k : K) (ks : List K) (v : V)
    (ch : List (K × Node K V)) (val : Option V) :
    insert eq less (k :: ks) v (.mk ch val) =
      .mk (OMap.set eq less ch k (insert eq less ks v ((OMap.get eq less ch k).getD Node.empty))) val := by
  conv => lhs; unfold insert
  unfold OMap.set OMap.get
  cases hf : find eq less ch k with
  | mk i b =>
    cases b with
    | false => rfl
    | true =>
      obtain ⟨hi, -⟩ := find_found hf
      simp only [List.getElem?_eq_getElem hi, Option.map_some, Option.getD_some]
      rw [List.modify_eq_take_cons_drop hi, List.set_eq_take_append_cons_drop, if_pos hi]

/-- all children maps are sorted, recursively -/
inductive WF (less : K → K → Bool) : Node K V → Prop where
  | mk (ch : List (K × Node K V)) (val : Option V) :
      Sorted less ch → (∀ e ∈ ch, WF less e.2) → WF less (.mk ch val)

theorem WF.empty (less : K → K → Bool) : WF less (Node.empty : Node K V) :=
  .mk [] none (by simp [Sorted]) (by simp)

theorem WF.sorted {less : K → K → Bool} {ch : List (K × Node K V)} {val : Option V} (h : WF less (.mk ch val)) :
    Sorted less ch := by
  cases h; assumption

/-- pointwise `eq` of two key sequences of the same length -/
def keysEq (eq : K → K → Bool) : List K → List K → Bool
  | [], [] => true
  | a :: as, b :: bs => eq a b && keysEq eq as bs
  | _, _ => false

theorem aliasExists_nil (eq less : K → K → Bool) (ch : List (K × Node K V)) (val : Option V) :
    aliasExists eq less [] (.mk ch val) = val := by
  unfold aliasExists contains
  cases val <;> rfl

theorem aliasExists_empty (eq less : K → K → Bool) : ∀ ks : List K, aliasExists eq less ks (Node.empty : Node K V) = none
  | [] => rfl
  | _ :: _ => rfl

/-- a child that is not there reads like the empty node; `insert_cons` writes to it in the same way -/
theorem aliasExists_cons (eq less : K → K → Bool) (k : K) (ks : List K)
    (ch : List (K × Node K V)) (val : Option V) :
    aliasExists eq less (k :: ks) (.mk ch val) =
      aliasExists eq less ks ((OMap.get eq less ch k).getD Node.empty) := by
  unfold aliasExists
  rw [contains]
  cases OMap.get eq less ch k with
  | none => exact (aliasExists_empty eq less ks).symm
  | some c => rfl

section
variable {eq less : K → K → Bool} (hc : Compat eq less)
include hc

theorem keysEq_refl : ∀ (p : List K), keysEq eq p p = true
  | [] => rfl
  | a :: as => by simp [keysEq, hc.eq_refl, keysEq_refl as]

theorem WF.child {ch : List (K × Node K V)} {val : Option V} (h : WF less (.mk ch val)) (k : K) :
    WF less ((OMap.get eq less ch k).getD Node.empty) := by
  cases h with
  | mk _ _ hs hch =>
    cases hg : OMap.get eq less ch k with
    | none => exact WF.empty less
    | some c =>
      obtain ⟨e, hem, _, rfl⟩ := (get_some_iff hc ch hs k c).mp hg
      exact hch e hem

theorem insert_wf (n : Node K V) (hwf : WF less n) (ks : List K) (v : V) : WF less (insert eq less ks v n) := by
  induction ks generalizing n with
  | nil => cases hwf with | mk ch val hs hch => exact .mk ch (some v) hs hch
  | cons k ks ih =>
    obtain ⟨ch, val⟩ := n
    have hnew := ih _ (hwf.child hc k)
    cases hwf with
    | mk _ _ hs hch =>
      rw [insert_cons]
      obtain ⟨k₀, -, hmem⟩ := mem_set hc ch hs k _
      refine .mk _ val (set_sorted hc ch hs k _) fun e he => ?_
      rcases (hmem e).mp he with rfl | ⟨he, -⟩
      · exact hnew
      · exact hch e he

theorem aliasExists_insert (n : Node K V) (hwf : WF less n) (ks : List K) (v : V) (ks' : List K) :
    aliasExists eq less ks' (insert eq less ks v n) =
      if keysEq eq ks ks' then some v else aliasExists eq less ks' n := by
  induction ks generalizing n ks' with
  | nil =>
    obtain ⟨ch, val⟩ := n
    unfold insert
    cases ks' with
    | nil => rfl
    | cons k' r' => rw [aliasExists_cons, aliasExists_cons]; rfl
  | cons k r ih =>
    obtain ⟨ch, val⟩ := n
    rw [insert_cons]
    cases ks' with
    | nil => rfl
    | cons k' r' =>
      rw [aliasExists_cons, aliasExists_cons, get_set hc ch hwf.sorted]
      cases hk : eq k k' with
      | true =>
        rw [if_pos rfl, Option.getD_some, ih _ (hwf.child hc k), get_congr hc ch hwf.sorted k k' hk]
        simp only [keysEq, hk, Bool.true_and]
      | false => simp only [keysEq, hk, Bool.false_and, Bool.false_eq_true, if_false]

theorem aliasExists_congr (n : Node K V) (hwf : WF less n) (q p : List K) (h : keysEq eq q p = true) :
    aliasExists eq less q n = aliasExists eq less p n := by
  induction q generalizing n p with
  | nil => cases p with
    | nil => rfl
    | cons => cases h
  | cons a as ih => cases p with
    | nil => cases h
    | cons b bs =>
      obtain ⟨ch, val⟩ := n
      simp only [keysEq, Bool.and_eq_true] at h
      rw [aliasExists_cons, aliasExists_cons, get_congr hc ch hwf.sorted a b h.1]
      exact ih _ (hwf.child hc b) bs h.2

end

end DDP.Trie
