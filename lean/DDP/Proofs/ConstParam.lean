import DDP.Impl.ConstParam

/-!
# The flags of the constant-parameter annotator are sound

Everything rests on one computation: what the pass does to the entry of a single parameter `q`. Every statement either leaves
that entry alone or makes it fall (`fall`), and which of the two is a property of the statement (`marks`), not of the flags. So a
body acts as `fall (body.any marks)` (`foldl_get`); `flag_iff` is that sentence for the initial flags, and `sound` follows from it:
each rule of `Mut` exhibits a statement that marks.
-/

namespace DDP.ConstParam

/-- parameter `i` is not (or no longer) considered constant -/
def isFalse (fl : Flags) (i : Nat) : Prop := fl[i]? ≠ some true

/-- does the argument / target name parameter `q` (or everything)? -/
def names (a : Arg) (q : Nat) : Bool :=
  match a with
  | .none => false
  | .root i => i == q
  | .unknown => true

def marksArgs (info : Option Flags) (q : Nat) : Nat → List Arg → Bool
  | _, [] => false
  | j, a :: as => (!calleeConst info j && names a q) || marksArgs info q (j+1) as

/-- statement `s` clears the flag of parameter `q` -/
def marks (known : Nat → Option Flags) (self : Nat) (q : Nat) : Stmt → Bool
  | .assign t => names t q
  | .call g args => marksArgs (if g = self then none else known g) q 0 args

def fall (c : Bool) (x : Option Bool) : Option Bool := if c then x.map fun _ => false else x

theorem fall_fall (a b : Bool) (x : Option Bool) : fall a (fall b x) = fall (b || a) x := by
  cases a <;> cases b <;> cases x <;> rfl

theorem fall_eq_true {c : Bool} {x : Option Bool} : fall c x = some true ↔ c = false ∧ x = some true := by
  cases c <;> cases x <;> simp [fall]

theorem mark_get (fl : Flags) (a : Arg) (q : Nat) : (mark fl a)[q]? = fall (names a q) fl[q]? := by
  cases a with
  | none => rfl
  | root i => simp [mark, names, fall, List.getElem?_set']; rfl
  | unknown => simp [mark, names, fall]

theorem markArgs_get (info : Option Flags) (q : Nat) (args : List Arg) (j : Nat) (fl : Flags) :
    (markArgs info j args fl)[q]? = fall (marksArgs info q j args) fl[q]? := by
  induction args generalizing j fl with
  | nil => rfl
  | cons a as ih =>
    rw [markArgs, marksArgs, ih]
    cases calleeConst info j
    · simp [mark_get, fall_fall]
    · simp

theorem step_get (known : Nat → Option Flags) (self : Nat) (fl : Flags) (s : Stmt) (q : Nat) :
    (step known self fl s)[q]? = fall (marks known self q s) fl[q]? := by
  cases s with
  | assign t => exact mark_get fl t q
  | call g args => exact markArgs_get _ q args 0 fl

theorem foldl_get (known : Nat → Option Flags) (self : Nat) (q : Nat) (body : List Stmt) (fl : Flags) :
    (body.foldl (step known self) fl)[q]? = fall (body.any (marks known self q)) fl[q]? := by
  induction body generalizing fl with
  | nil => rfl
  | cons s rest ih => rw [List.foldl_cons, ih, step_get, fall_fall, List.any_cons]

/-- **The pass, said declaratively.** The flags do not depend on the order of the statements (the pass is flow-insensitive),
a flag is cleared only for a reason that can be pointed at, and `sound` says the reasons suffice. -/
theorem flag_iff (known : Nat → Option Flags) (self : Nat) (fn : Fn) (q : Nat) :
    (analyseFn known self fn)[q]? = some true ↔
      (q < fn.nparams ∧ fn.extern = false ∧ ∀ s ∈ fn.body, marks known self q s = false) := by
  unfold analyseFn
  cases fn.extern
  · simp [foldl_get, fall_eq_true, List.getElem?_replicate, and_comm]
  · simp [List.getElem?_replicate]

/-- the flags of a function do not depend on the order of its statements -/
theorem analyseFn_perm (known : Nat → Option Flags) (self : Nat) (fn fn' : Fn)
    (hn : fn.nparams = fn'.nparams) (he : fn.extern = fn'.extern) (hp : fn.body.Perm fn'.body) (q : Nat) :
    ((analyseFn known self fn)[q]? = some true) ↔ ((analyseFn known self fn')[q]? = some true) := by
  simp only [flag_iff, hn, he, hp.mem_iff]

/-- a statement that marks `q` whatever the flags are, anywhere in the body, leaves `q` marked at the end -/
theorem foldl_hits (known : Nat → Option Flags) (self : Nat) (s : Stmt) (q : Nat)
    (hs : ∀ fl, isFalse (step known self fl s) q) : ∀ (body : List Stmt) (fl : Flags), s ∈ body →
    isFalse (body.foldl (step known self) fl) q := by
  intro body fl hmem h
  -- on flags that are set, `hs` says that `s` marks
  have hm : marks known self q s = true := by
    have := hs (List.replicate (q + 1) true)
    rw [isFalse, step_get, Ne, fall_eq_true] at this
    simpa using this
  rw [foldl_get, fall_eq_true, List.any_eq_false] at h
  exact h.1 s hmem hm

theorem analyseFrom_prefix (rest : List Fn) (i : Nat) (done : List Flags) : done <+: analyseFrom i rest done := by
  induction rest generalizing i done with
  | nil => exact List.prefix_rfl
  | cons fn rest ih => exact (List.prefix_append done _).trans (ih _ _)

/-- every function's entry is the analysis of that function with the *final* entries of the functions before it, and nothing
about itself or the functions after it -/
theorem analyseFrom_entry (rest : List Fn) (i : Nat) (done : List Flags) (hlen : done.length = i) (k : Nat) (fn : Fn)
    (h : rest[k]? = some fn) :
    (analyseFrom i rest done)[i + k]? = some (analyseFn (((analyseFrom i rest done).take (i + k))[·]?) (i + k) fn) := by
  induction rest generalizing i done k with
  | nil => cases h
  | cons fn0 rest ih =>
    cases k with
    | zero =>
      cases h
      subst hlen
      -- the result is `done ++ x :: t`: entry `done.length` is `x`, the entries before it are `done`
      obtain ⟨t, ht⟩ := analyseFrom_prefix rest (done.length + 1) (done ++ [analyseFn (done[·]?) done.length fn])
      rw [analyseFrom, ← ht, List.append_assoc, Nat.add_zero, List.take_left, List.getElem?_append_right (Nat.le_refl _),
        Nat.sub_self]
      rfl
    | succ k =>
      have := ih (i + 1) (done ++ [analyseFn (done[·]?) i fn0]) (by simp [hlen]) k h
      rwa [Nat.add_right_comm, Nat.add_assoc] at this

theorem analyse_entry (p : Prog) (f : Nat) (fn : Fn) (h : p[f]? = some fn) :
    (analyse p)[f]? = some (analyseFn (fun g => if g < f then (analyse p)[g]? else none) f fn) := by
  simpa only [analyse, Nat.zero_add, List.getElem?_take] using analyseFrom_entry p 0 [] rfl f fn h

theorem calleeConst_eq_false {info : Option Flags} {j : Nat} : calleeConst info j = false ↔ info.bind (·[j]?) ≠ some true := by
  cases info with
  | none => simp [calleeConst]
  | some fl => cases h : fl[j]? <;> simp [calleeConst, h]

theorem marksArgs_of_arg {info : Option Flags} {q : Nat} {args : List Arg} (s : Nat) {j : Nat} {a : Arg}
    (h : args[j]? = some a) (ha : names a q = true) (hc : calleeConst info (s + j) = false) : marksArgs info q s args = true := by
  induction args generalizing s j with
  | nil => cases h
  | cons a0 as ih =>
    cases j with
    | zero => cases h; simp [marksArgs, show calleeConst info s = false from hc, ha]
    | succ j => simp [marksArgs, ih (s + 1) h (by rwa [Nat.add_right_comm, Nat.add_assoc])]

theorem analyse_marked (p : Prog) {f q : Nat} {fn : Fn} {s : Stmt} (hf : p[f]? = some fn) (hmem : s ∈ fn.body)
    (hm : marks (fun g => if g < f then (analyse p)[g]? else none) f q s = true) : (analyse p)[f]?.bind (·[q]?) ≠ some true := by
  rw [analyse_entry p f fn hf, Option.bind_some, Ne, flag_iff]
  intro ⟨_, _, h⟩
  rw [h s hmem] at hm
  cases hm

/-- **The flags are sound.** A parameter the annotator leaves flagged constant is not changed by running the function —
not directly, not through a Referenz parameter of a callee (also not of the function itself, called recursively, or of a
function looked at later), not through another value parameter that is itself handed over without a copy. -/
theorem sound (p : Prog) (f q : Nat) (h : Mut p (analyse p) f q) : (analyse p)[f]?.bind (·[q]?) ≠ some true := by
  induction h with
  | assign hf _ hmem => exact analyse_marked p hf hmem (by simp [marks, names])
  | assignUnknown hf _ hmem => exact analyse_marked p hf hmem rfl
  | extern hf hext => simp [analyse_entry p _ _ hf, flag_iff, hext]
  | @viaRef f q fn g gn args j a hf _ hmem harg ha _ _ _ ih =>
    -- the callee's parameter `j` is not known to be constant: the callee is the function itself or a later one (nothing is
    -- known), or an earlier one whose final flag is down by the induction hypothesis
    refine analyse_marked p hf hmem (marksArgs_of_arg 0 harg (by rcases ha with rfl | rfl <;> simp [names]) ?_)
    show calleeConst (if g = f then none else if g < f then (analyse p)[g]? else none) (0 + j) = false
    rw [Nat.zero_add]
    split
    · rfl
    · split
      · exact calleeConst_eq_false.mpr ih
      · rfl
  | viaBorrow _ _ _ _ _ hborrow _ ih => exact absurd hborrow ih

end DDP.ConstParam
