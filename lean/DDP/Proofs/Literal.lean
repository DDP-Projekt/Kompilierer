import DDP.Impl.Literal
import DDP.Spec.Literal

/-! The escape tables against each other, and the parser's unescaping against the
specification (`Props/C19.lean`). -/

namespace DDP.Literal
open DDP.Generated DDP.LiteralSpec DDP.Scanner

theorem lookup_cons (a b : Char) (t : List (Char × Char)) (l : Char) :
    lookup ((a, b) :: t) l = if l = a then some b else lookup t l := by
  unfold lookup
  by_cases h : l = a
  · simp [h]
  · simp [h, Ne.symm h]

/-- the generated table lists the quote before the backslash, the specification after it -/
theorem lookup_string_eq_spec (l : Char) : lookup parseStringEscapes l = escapeImage '"' l := by
  by_cases h : l = '\\'
  · subst h; decide
  · simp only [parseStringEscapes, lookup_cons, escapeImage, h, if_false]; rfl

theorem lookup_char_eq_spec (l : Char) : lookup parseCharEscapes l = escapeImage '\'' l := by
  by_cases h : l = '\\'
  · subst h; decide
  · simp only [parseCharEscapes, lookup_cons, escapeImage, h, if_false]; rfl

/-- the scanner's acceptance test (hand-transcribed `isEscape`) is the generated case list -/
theorem isEscape_eq_generated (q d : Char) :
    isEscape q d = (scannerEscapeLetters.contains d || (scannerEscapeQuote && d == q)) := by
  simp [isEscape, scannerEscapeLetters, scannerEscapeQuote, Bool.or_assoc]
  rfl

theorem isEscape_iff_spec (q d : Char) : isEscape q d = (escapeImage q d).isSome := by
  simp only [isEscape, escapeImage, apply_ite Option.isSome, Option.isSome_some, Option.isSome_none,
    Bool.or_assoc, Bool.if_true_left, Bool.if_false_right, Bool.and_true]
  rfl

theorem unescape_cons_plain {q c : Char} (h : c ≠ '\\') (rest : List Char) :
    unescape q (c :: rest) = (unescape q rest).map (c :: ·) := by
  rw [unescape.eq_def]; exact if_neg h

theorem unescape_cons_escape {q l img : Char} (h : escapeImage q l = some img) (rest : List Char) :
    unescape q ('\\' :: l :: rest) = (unescape q rest).map (img :: ·) := by
  rw [unescape, if_pos rfl]; simp only [h]

theorem parseStringImpl_spec (tbl : List (Char × Char)) (q : Char)
    (htbl : ∀ l, lookup tbl l = escapeImage q l) (cs : List Char) :
    unescape q cs = if (parseStringImpl tbl cs).2 = 0 then some (parseStringImpl tbl cs).1 else none := by
  fun_induction parseStringImpl tbl cs with
  | case1 => rw [unescape]; rfl
  | case2 => rw [unescape, if_pos rfl]; rfl
  | case3 d rest img himg r ih => rw [unescape_cons_escape (htbl d ▸ himg), ih]; split <;> rfl
  | case4 d rest hno r ih => rw [unescape, if_pos rfl]; simp only [← htbl, hno]; rfl
  | case5 c rest hc r ih => rw [unescape_cons_plain hc, ih]; split <;> rfl

theorem parseStringImpl_of_unescape {tbl : List (Char × Char)} {q : Char}
    (htbl : ∀ l, lookup tbl l = escapeImage q l) {cs v : List Char} (h : unescape q cs = some v) :
    parseStringImpl tbl cs = (v, 0) := by
  rw [parseStringImpl_spec tbl q htbl] at h
  split at h
  · exact Prod.ext (Option.some.inj h) ‹_›
  · cases h

end DDP.Literal
