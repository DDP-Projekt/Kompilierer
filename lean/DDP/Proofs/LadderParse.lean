import DDP.Impl.LadderParse

/-!
# `parse (pp e) = e` for the ladder of left-associative chains, and the ladder needs no fuel

A successful run of the ladder is built from eleven rules (`parse_chain` … `parseX_other`: one per branch of
the five functions that does not fail), and `run_ind` says these are the only ways to succeed. Everything about *every*
token sequence is a rule induction: more fuel never changes an answer (`mono_step`: the rules do not look at the fuel), a
rung consumes a token (`progress`), reads from the front (`consumes_prefix`), and the fuel of `parseAll` suffices
(`fuel_suffices`); `parse_det`, `fuel_irrelevant` and `parseAll_eq_some` follow from these.

`parse_pp` is an induction on the tree; the statement carried through it has one part for each place an operand is printed
in (`S` at a chain rung, `SX` as the value operand of a conditional expression, `SI` where a whole expression stands), and `S'`
beside `S` because the left operand of a chain is *not* parsed by one call of a rung but by the first call plus iterations
of the loop: at every chain rung `j`, "first operand from rung `j+1`, then the loop of rung `j`" applied to `pp j e ++ rest`
ends where the loop of rung `j` started with running result `e` on `rest` ends — `rest` may start with an operator of rung
`j` itself.
-/

namespace DDP.LadderParse

variable (T : Tbl)

theorem okRest_clTok {k o rest} (h : okRest T k rest) : okRest T k (clTok T o ++ rest) := by
  unfold clTok
  split
  · intro o' r' hr; cases hr
  · simpa using h

theorem expectCl_clTok (o : Nat) (e : E) (rest : List Tok) : expectCl T o (e, clTok T o ++ rest) = some (e, rest) := by
  unfold expectCl clTok
  split <;> simp

section rules
variable {T} {f k o : Nat} {ts rest r r₁ r₂ : List Tok} {e l a b c : E} {x : E × List Tok}

theorem parse_chain (hk : k < T.n) (hp : parse T f (k+1) ts = some (e, r)) (hl : loop T f k e r = some x) :
    parse T (f+1) k ts = some x := by simp [parse, hk, hp, hl]
theorem parse_atom {n} (hk : ¬ k < T.n) : parse T (f+1) k (.atom n :: rest) = some (.atom n, rest) := by
  simp [parse, hk]
theorem parse_uop {u} (hk : ¬ k < T.n) (hp : parse T f k rest = some (e, r)) :
    parse T (f+1) k (.uop u :: rest) = some (.un u e, r) := by simp [parse, hk, hp]
theorem parse_lp (hk : ¬ k < T.n) (hp : parseIf T f rest = some (e, .rp :: r)) :
    parse T (f+1) k (.lp :: rest) = some (e, r) := by simp [parse, hk, hp, closeParen]
theorem loop_take (hp : parse T f (T.lv o + 1) rest = some (e, clTok T o ++ r))
    (hl : loop T f (T.lv o) (.bin o l e) r = some x) : loop T (f+1) (T.lv o) l (.bop o :: rest) = some x := by
  simp [loop, hp, hl, expectCl_clTok]
theorem loop_stop (h : ∀ o r, ts = .bop o :: r → T.lv o ≠ k) : loop T (f+1) k l ts = some (l, ts) := by
  unfold loop; split
  · exact if_neg (h _ _ rfl)
  · rfl
theorem parseIf_cond (hp : parseX T f ts = some (e, r)) (hl : loopIf T f e r = some x) : parseIf T (f+1) ts = some x := by
  simp [parseIf, hp, hl]
theorem loopIf_take (hc : parseIf T f rest = some (c, .sonst :: r₁)) (hb : parseIf T f r₁ = some (b, r₂))
    (hl : loopIf T f (.ite l c b) r₂ = some x) : loopIf T (f+1) l (.falls :: rest) = some x := by
  simp [loopIf, hc, hb, hl, expectSonst]
theorem loopIf_stop (h : ∀ r, ts ≠ .falls :: r) : loopIf T (f+1) l ts = some (l, ts) := by
  unfold loopIf; split
  · exact absurd rfl (h _)
  · rfl
theorem parseX_entw (ha : parse T f 0 rest = some (a, .oderk :: r₁)) (hb : parse T f 0 r₁ = some (b, r₂)) :
    parseX T (f+1) (.entw :: rest) = some (.xor a b, r₂) := by simp [parseX, ha, hb, expectOderk]
theorem parseX_other (h : ∀ r, ts ≠ .entw :: r) (hp : parse T f 0 ts = some x) : parseX T (f+1) ts = some x := by
  unfold parseX; split
  · exact absurd rfl (h _)
  · exact hp

theorem expectCl_eq_some {p} (h : expectCl T o p = some x) : p = (x.1, clTok T o ++ x.2) := by
  unfold expectCl at h
  unfold clTok
  split at h
  · split at h
    · split at h <;> simp_all [Prod.ext_iff]
    · cases h
  · simp_all

/-- the motives may mention the fuel (`mono_step` needs that); most do not -/
theorem run_ind {P : Nat → Nat → List Tok → E × List Tok → Prop} {L : Nat → Nat → E → List Tok → E × List Tok → Prop}
    {PI PX : Nat → List Tok → E × List Tok → Prop} {LI : Nat → E → List Tok → E × List Tok → Prop}
    (chain : ∀ {f k ts e r x}, k < T.n → P f (k+1) ts (e, r) → L f k e r x → P (f+1) k ts x)
    (atom : ∀ {f k n rest}, ¬ k < T.n → P (f+1) k (.atom n :: rest) (.atom n, rest))
    (uop : ∀ {f k u rest e r}, ¬ k < T.n → P f k rest (e, r) → P (f+1) k (.uop u :: rest) (.un u e, r))
    (lp : ∀ {f k rest e r}, ¬ k < T.n → PI f rest (e, .rp :: r) → P (f+1) k (.lp :: rest) (e, r))
    (take : ∀ {f o l rest e r x}, P f (T.lv o + 1) rest (e, clTok T o ++ r) → L f (T.lv o) (.bin o l e) r x →
      L (f+1) (T.lv o) l (.bop o :: rest) x)
    (stop : ∀ {f k l ts}, (∀ o r, ts = .bop o :: r → T.lv o ≠ k) → L (f+1) k l ts (l, ts))
    (cond : ∀ {f ts e r x}, PX f ts (e, r) → LI f e r x → PI (f+1) ts x)
    (takeIf : ∀ {f l rest c r₁ b r₂ x}, PI f rest (c, .sonst :: r₁) → PI f r₁ (b, r₂) → LI f (.ite l c b) r₂ x →
      LI (f+1) l (.falls :: rest) x)
    (stopIf : ∀ {f l ts}, (∀ r, ts ≠ .falls :: r) → LI (f+1) l ts (l, ts))
    (entw : ∀ {f rest a r₁ b r₂}, P f 0 rest (a, .oderk :: r₁) → P f 0 r₁ (b, r₂) → PX (f+1) (.entw :: rest) (.xor a b, r₂))
    (other : ∀ {f ts x}, (∀ r, ts ≠ .entw :: r) → P f 0 ts x → PX (f+1) ts x) :
    ∀ f, (∀ k ts x, parse T f k ts = some x → P f k ts x) ∧ (∀ k l ts x, loop T f k l ts = some x → L f k l ts x) ∧
      (∀ ts x, parseIf T f ts = some x → PI f ts x) ∧ (∀ l ts x, loopIf T f l ts = some x → LI f l ts x) ∧
      (∀ ts x, parseX T f ts = some x → PX f ts x) := by
  intro f
  induction f with
  | zero => simp [parse, loop, parseIf, loopIf, parseX]
  | succ f ih =>
    obtain ⟨ihp, ihl, ihI, ihlI, ihX⟩ := ih
    refine ⟨fun k ts x h => ?_, fun k l ts x h => ?_, fun ts x h => ?_, fun l ts x h => ?_, fun ts x h => ?_⟩
    · unfold parse at h
      split at h
      · obtain ⟨p, hp, hl⟩ := Option.bind_eq_some_iff.1 h
        exact chain ‹_› (ihp _ _ _ hp) (ihl _ _ _ _ hl)
      · split at h
        · cases h; exact atom ‹_›
        · obtain ⟨p, hp, hx⟩ := Option.bind_eq_some_iff.1 h
          cases hx; exact uop ‹_› (ihp _ _ _ hp)
        · obtain ⟨⟨e, r⟩, hp, hc⟩ := Option.bind_eq_some_iff.1 h
          unfold closeParen at hc
          split at hc
          · next heq => cases hc; cases heq; exact lp ‹_› (ihI _ _ hp)
          · cases hc
        · cases h
    · unfold loop at h
      split at h
      · split at h
        · next ho =>
          obtain ⟨p, hq, hl⟩ := Option.bind_eq_some_iff.1 h
          obtain ⟨q, hp, hc⟩ := Option.bind_eq_some_iff.1 hq
          cases expectCl_eq_some hc; cases ho
          exact take (ihp _ _ _ hp) (ihl _ _ _ _ hl)
        · next ho => cases h; exact stop (fun o r hr => by cases hr; exact ho)
      · next hne => cases h; exact stop (fun o r hr => (hne o r hr).elim)
    · unfold parseIf at h
      obtain ⟨p, hp, hl⟩ := Option.bind_eq_some_iff.1 h
      exact cond (ihX _ _ hp) (ihlI _ _ _ hl)
    · unfold loopIf at h
      split at h
      · obtain ⟨pc, hq, h⟩ := Option.bind_eq_some_iff.1 h
        obtain ⟨⟨c, r₁⟩, hc, he⟩ := Option.bind_eq_some_iff.1 hq
        obtain ⟨⟨b, r₂⟩, hb, hl⟩ := Option.bind_eq_some_iff.1 h
        unfold expectSonst at he
        split at he
        · next heq => cases he; cases heq; exact takeIf (ihI _ _ hc) (ihI _ _ hb) (ihlI _ _ _ hl)
        · cases he
      · next hne => cases h; exact stopIf (fun r hr => hne r hr)
    · unfold parseX at h
      split at h
      · obtain ⟨pa, hq, h⟩ := Option.bind_eq_some_iff.1 h
        obtain ⟨⟨a, r₁⟩, ha, he⟩ := Option.bind_eq_some_iff.1 hq
        obtain ⟨⟨b, r₂⟩, hb, hx⟩ := Option.bind_eq_some_iff.1 h
        unfold expectOderk at he
        split at he
        · next heq => cases he; cases heq; cases hx; exact entw (ihp _ _ _ ha) (ihp _ _ _ hb)
        · cases he
      · next hne => exact other (fun r hr => hne r hr) (ihp _ _ _ h)

end rules

theorem mono_step : ∀ f,
    (∀ k ts x, parse T f k ts = some x → parse T (f+1) k ts = some x) ∧
    (∀ k l ts x, loop T f k l ts = some x → loop T (f+1) k l ts = some x) ∧
    (∀ ts x, parseIf T f ts = some x → parseIf T (f+1) ts = some x) ∧
    (∀ l ts x, loopIf T f l ts = some x → loopIf T (f+1) l ts = some x) ∧
    (∀ ts x, parseX T f ts = some x → parseX T (f+1) ts = some x) :=
  run_ind parse_chain parse_atom parse_uop parse_lp loop_take loop_stop parseIf_cond loopIf_take loopIf_stop
    parseX_entw parseX_other

theorem mono_of_step {A : Nat → Prop} (step : ∀ f, A f → A (f+1)) {f f'} (hle : f ≤ f') (h : A f) : A f' := by
  induction hle with
  | refl => exact h
  | step _ ih => exact step _ ih

section mono
variable {T} {f f' f₁ f₂ k o : Nat} {ts rest r r₁ r₂ : List Tok} {e l a b c : E} {x : E × List Tok}

theorem parse_mono (hle : f ≤ f') : parse T f k ts = some x → parse T f' k ts = some x :=
  mono_of_step (fun f => (mono_step T f).1 k ts x) hle
theorem loop_mono (hle : f ≤ f') : loop T f k l ts = some x → loop T f' k l ts = some x :=
  mono_of_step (fun f => (mono_step T f).2.1 k l ts x) hle
theorem parseIf_mono (hle : f ≤ f') : parseIf T f ts = some x → parseIf T f' ts = some x :=
  mono_of_step (fun f => (mono_step T f).2.2.1 ts x) hle
theorem loopIf_mono (hle : f ≤ f') : loopIf T f l ts = some x → loopIf T f' l ts = some x :=
  mono_of_step (fun f => (mono_step T f).2.2.2.1 l ts x) hle
theorem parseX_mono (hle : f ≤ f') : parseX T f ts = some x → parseX T f' ts = some x :=
  mono_of_step (fun f => (mono_step T f).2.2.2.2 ts x) hle

/-! the rules with several sub-runs, each sub-run with the fuel it happens to have -/

theorem parse_chain_max (hk : k < T.n) (hp : parse T f₁ (k+1) ts = some (e, r)) (hl : loop T f₂ k e r = some x) :
    parse T (max f₁ f₂ + 1) k ts = some x :=
  parse_chain hk (parse_mono (Nat.le_max_left ..) hp) (loop_mono (Nat.le_max_right ..) hl)
theorem loop_take_max (hp : parse T f₁ (T.lv o + 1) rest = some (e, clTok T o ++ r))
    (hl : loop T f₂ (T.lv o) (.bin o l e) r = some x) : loop T (max f₁ f₂ + 1) (T.lv o) l (.bop o :: rest) = some x :=
  loop_take (parse_mono (Nat.le_max_left ..) hp) (loop_mono (Nat.le_max_right ..) hl)
theorem parseIf_cond_max (hp : parseX T f₁ ts = some (e, r)) (hl : loopIf T f₂ e r = some x) :
    parseIf T (max f₁ f₂ + 1) ts = some x :=
  parseIf_cond (parseX_mono (Nat.le_max_left ..) hp) (loopIf_mono (Nat.le_max_right ..) hl)
theorem loopIf_take_max {f₃} (hc : parseIf T f₁ rest = some (c, .sonst :: r₁)) (hb : parseIf T f₂ r₁ = some (b, r₂))
    (hl : loopIf T f₃ (.ite l c b) r₂ = some x) : loopIf T (max f₁ (max f₂ f₃) + 1) l (.falls :: rest) = some x :=
  loopIf_take (parseIf_mono (Nat.le_max_left ..) hc)
    (parseIf_mono (Nat.le_trans (Nat.le_max_left ..) (Nat.le_max_right ..)) hb)
    (loopIf_mono (Nat.le_trans (Nat.le_max_right ..) (Nat.le_max_right ..)) hl)
theorem parseX_entw_max (ha : parse T f₁ 0 rest = some (a, .oderk :: r₁)) (hb : parse T f₂ 0 r₁ = some (b, r₂)) :
    parseX T (max f₁ f₂ + 1) (.entw :: rest) = some (.xor a b, r₂) :=
  parseX_entw (parse_mono (Nat.le_max_left ..) ha) (parse_mono (Nat.le_max_right ..) hb)

end mono

/-- the parser is a function: two runs that both finish agree, whatever fuel they had -/
theorem parse_det {f f' k ts x y} (h : parse T f k ts = some x) (h' : parse T f' k ts = some y) : x = y :=
  Option.some.inj ((parse_mono (Nat.le_max_left f f') h).symm.trans (parse_mono (Nat.le_max_right f f') h'))

/-- a result obtained at rung `j` is the result at every looser rung `k`, provided no rung in between takes what follows -/
theorem descend : ∀ d k j ts e rest, k + d = j → j ≤ T.n →
    (∃ f, parse T f j ts = some (e, rest)) →
    (∀ o r, rest = .bop o :: r → T.lv o < k ∨ j ≤ T.lv o) →
    ∃ f, parse T f k ts = some (e, rest) := by
  intro d
  induction d with
  | zero => intro k j ts e rest hkj _ h _; cases hkj; exact h
  | succ d ih =>
    intro k j ts e rest hkj hj h hrest
    have hk : k < j := by omega
    obtain ⟨f, hf⟩ := ih (k+1) j ts e rest (by omega) hj h fun o r hr => (hrest o r hr).imp Nat.lt_succ_of_lt id
    exact ⟨_, parse_chain_max (f₂ := 1) (Nat.lt_of_lt_of_le hk hj) hf (loop_stop fun o r hr =>
      (hrest o r hr).elim Nat.ne_of_lt fun hjo => Nat.ne_of_gt (Nat.lt_of_lt_of_le hk hjo))⟩

theorem descend_ok {k j ts e rest} (hkj : k ≤ j) (hj : j ≤ T.n) (hok : okRest T k rest)
    (h : ∃ f, parse T f j ts = some (e, rest)) : ∃ f, parse T f k ts = some (e, rest) :=
  descend T (j - k) k j ts e rest (Nat.add_sub_cancel' hkj) hj h (fun o r hr => .inl (hok o r hr))

def S (e : E) : Prop :=
  ∀ k, k ≤ T.n → ∀ rest, okRest T k rest → ∃ f, parse T f k (pp T k e ++ rest) = some (e, rest)

def S' (e : E) : Prop :=
  ∀ j, j < T.n → ∀ rest X, okRest T (j+1) rest → (∃ f, loop T f j e rest = some X) →
    ∃ f, (parse T f (j+1) (pp T j e ++ rest)).bind (fun p => loop T f j p.1 p.2) = some X

def SI (e : E) : Prop :=
  ∀ rest, okRestI rest → ∃ f, parseIf T f (ppI T e ++ rest) = some (e, rest)

def SX (e : E) : Prop :=
  ∀ rest, okRest T 0 rest → ∃ f, parseX T f (ppX T e ++ rest) = some (e, rest)

section
variable {T}

/-- the conclusion of `S'` is a run of rung `k` -/
theorem bind_iff_parse {k ts x} (hk : k < T.n) :
    (∃ f, (parse T f (k+1) ts).bind (fun p => loop T f k p.1 p.2) = some x) ↔ ∃ f, parse T f k ts = some x := by
  constructor
  · exact fun ⟨f, h⟩ => ⟨f+1, by simpa [parse, hk] using h⟩
  · rintro ⟨_ | f, h⟩
    · simp [parse] at h
    · exact ⟨f, by simpa [parse, hk] using h⟩

theorem okRest_mono {k k' rest} (h : okRest T k rest) (hle : k ≤ k') : okRest T k' rest :=
  fun o r hr => Nat.lt_of_lt_of_le (h o r hr) hle

theorem okRest_of_okRestI {k rest} (h : okRestI rest) : okRest T k rest :=
  fun o r hr => absurd hr (h.1 o r)

end

/-- when the operand prints the same at rung `j` and `j+1`, the first call already delivers it -/
theorem S'_of_S {e : E} (hS : S T e) (j : Nat) (hpp : pp T j e = pp T (j+1) e) (hj : j < T.n) :
    ∀ rest X, okRest T (j+1) rest → (∃ f, loop T f j e rest = some X) →
    ∃ f, (parse T f (j+1) (pp T j e ++ rest)).bind (fun p => loop T f j p.1 p.2) = some X := by
  intro rest X hok ⟨f₂, h₂⟩
  obtain ⟨f₁, h₁⟩ := hS (j+1) hj rest hok
  exact (bind_iff_parse hj).2 ⟨_, parse_chain_max hj (hpp ▸ h₁) h₂⟩

theorem S_atom (a : Nat) : S T (.atom a) := fun _ hk _ hok =>
  descend_ok T hk (Nat.le_refl _) hok ⟨1, parse_atom (Nat.lt_irrefl _)⟩

theorem S_un (u : Nat) (e : E) (ih : S T e) : S T (.un u e) := fun _ hk rest hok =>
  let ⟨f, hf⟩ := ih T.n (Nat.le_refl _) rest (okRest_mono hok hk)
  descend_ok T hk (Nat.le_refl _) hok ⟨f+1, parse_uop (Nat.lt_irrefl _) hf⟩

theorem pp_bin_congr {o l r k k'} (h : T.lv o < k ↔ T.lv o < k') : pp T k (.bin o l r) = pp T k' (.bin o l r) := by
  simp [pp, h]

theorem pp_bin_open {o l r k} (h : ¬ T.lv o < k) :
    pp T k (.bin o l r) = pp T (T.lv o) l ++ .bop o :: (pp T (T.lv o + 1) r ++ clTok T o) := by
  simp [pp, wrap, h]

/-- `S'` of a chain node at its own rung: the loop that holds `l` takes `o` and `r` and goes on as the loop that holds the
node (`loop_take`), so `S'` of `l` applies with that run -/
theorem S'_bin_own (o : Nat) (l r : E) (ho : T.lv o < T.n) (ihl' : S' T l) (ihr : S T r) :
    ∀ rest X, okRest T (T.lv o + 1) rest → (∃ f, loop T f (T.lv o) (.bin o l r) rest = some X) →
    ∃ f, (parse T f (T.lv o + 1) (pp T (T.lv o) (.bin o l r) ++ rest)).bind
      (fun p => loop T f (T.lv o) p.1 p.2) = some X := by
  intro rest X hok ⟨f₁, h₁⟩
  rw [pp_bin_open T (Nat.lt_irrefl _), List.append_assoc, List.cons_append, List.append_assoc]
  obtain ⟨f₂, h₂⟩ := ihr (T.lv o + 1) ho (clTok T o ++ rest) (okRest_clTok T hok)
  exact ihl' (T.lv o) ho _ X (fun o' r' hr => by cases hr; exact Nat.lt_succ_self _) ⟨_, loop_take_max h₂ h₁⟩

theorem pp_no_entw : ∀ (e : E) (k : Nat) (rest r : List Tok), pp T k e ++ rest ≠ .entw :: r := by
  intro e
  induction e with
  | bin o l r' ihl _ =>
    intro k rest r h
    by_cases hlt : T.lv o < k
    · simp [pp, wrap, hlt] at h
    · rw [pp_bin_open T hlt, List.append_assoc] at h
      exact ihl _ _ _ h
  | _ => intro k rest r h; simp [pp] at h

theorem SX_of_S0 {e : E} (hpp : ppX T e = pp T 0 e)
    (h0 : ∀ rest, okRest T 0 rest → ∃ f, parse T f 0 (pp T 0 e ++ rest) = some (e, rest)) : SX T e := fun rest hok =>
  let ⟨f, hf⟩ := h0 rest hok
  ⟨f+1, hpp ▸ parseX_other (pp_no_entw T e 0 rest) hf⟩

theorem SI_of_SX {e : E} (hpp : ppI T e = ppX T e) (hSX : SX T e) : SI T e := fun rest hok =>
  let ⟨_, hf⟩ := hSX rest (okRest_of_okRestI hok)
  ⟨_, hpp ▸ parseIf_cond_max (f₂ := 1) hf (loopIf_stop hok.2)⟩

theorem S_paren {e : E} {k : Nat} (hpp : pp T k e = .lp :: (ppI T e ++ [.rp])) (hSI : SI T e) (hk : k ≤ T.n)
    (rest : List Tok) (hok : okRest T k rest) : ∃ f, parse T f k (pp T k e ++ rest) = some (e, rest) := by
  obtain ⟨f, hf⟩ := hSI (.rp :: rest) ⟨fun o r h => (by cases h), fun r h => (by cases h)⟩
  rw [hpp]
  exact descend_ok T hk (Nat.le_refl _) hok ⟨f+1, parse_lp (Nat.lt_irrefl _) (by simpa using hf)⟩

/-- a chain node: open at the rungs up to its own, where its left operand is taken up by the loop; from there `boolXOR` and
`ifExpression` read it, and so do parentheses at the tighter rungs -/
theorem S_bin (o : Nat) (l r : E) (ho : T.lv o < T.n) (ihl' : S' T l) (ihr : S T r) :
    S T (.bin o l r) ∧ SI T (.bin o l r) ∧ SX T (.bin o l r) := by
  have hopen : ∀ k, k ≤ T.lv o → ∀ rest, okRest T k rest →
      ∃ f, parse T f k (pp T k (.bin o l r) ++ rest) = some (.bin o l r, rest) := by
    intro k hk rest hok
    rw [pp_bin_congr T (k' := T.lv o) (by omega)]
    exact descend_ok T hk (Nat.le_of_lt ho) hok <| (bind_iff_parse ho).1 <|
      S'_bin_own T o l r ho ihl' ihr rest _ (okRest_mono hok (by omega))
        ⟨1, loop_stop fun o' r' hr => by have := hok o' r' hr; omega⟩
  have hX : SX T (.bin o l r) := SX_of_S0 T (pp_bin_open T (Nat.not_lt_zero _)).symm (hopen 0 (Nat.zero_le _))
  have hI : SI T (.bin o l r) := SI_of_SX T rfl hX
  refine ⟨fun k hk rest hok => ?_, hI, hX⟩
  by_cases hlt : T.lv o < k
  · exact S_paren T (by simp [pp, wrap, hlt, ppI]) hI hk rest hok
  · exact hopen k (by omega) rest hok

theorem SI_ite (a c b : E) (iha : SX T a) (ihc : SI T c) (ihb : SI T b) : SI T (.ite a c b) := by
  intro rest hok
  obtain ⟨f₃, h₃⟩ := ihb rest hok
  obtain ⟨f₂, h₂⟩ := ihc (.sonst :: (ppI T b ++ rest)) ⟨fun o r h => (by cases h), fun r h => (by cases h)⟩
  obtain ⟨f₁, h₁⟩ := iha (.falls :: (ppI T c ++ .sonst :: (ppI T b ++ rest))) (fun o r h => by cases h)
  have hpp : ppI T (.ite a c b) ++ rest = ppX T a ++ .falls :: (ppI T c ++ .sonst :: (ppI T b ++ rest)) := by
    simp [ppI]
  exact ⟨_, hpp ▸ parseIf_cond_max h₁ (loopIf_take_max (f₃ := 1) h₂ h₃ (loopIf_stop hok.2))⟩

theorem SX_xor (a b : E) (iha : S T a) (ihb : S T b) : SX T (.xor a b) := by
  intro rest hok
  obtain ⟨f₂, h₂⟩ := ihb 0 (Nat.zero_le _) rest hok
  obtain ⟨f₁, h₁⟩ := iha 0 (Nat.zero_le _) (.oderk :: (pp T 0 b ++ rest)) (fun o r h => by cases h)
  have hpp : ppX T (.xor a b) ++ rest = .entw :: (pp T 0 a ++ .oderk :: (pp T 0 b ++ rest)) := by simp [ppX]
  exact ⟨_, hpp ▸ parseX_entw_max h₁ h₂⟩

theorem both : ∀ e, wf T e → S T e ∧ S' T e ∧ SI T e ∧ SX T e := by
  intro e
  induction e with
  | atom a =>
    intro _
    have hs := S_atom T a
    have hx := SX_of_S0 T rfl (hs 0 (Nat.zero_le _))
    exact ⟨hs, fun j hj => S'_of_S T hs j rfl hj, SI_of_SX T rfl hx, hx⟩
  | un u e ih =>
    intro h
    have hs := S_un T u e (ih h).1
    have hx := SX_of_S0 T rfl (hs 0 (Nat.zero_le _))
    exact ⟨hs, fun j hj => S'_of_S T hs j rfl hj, SI_of_SX T rfl hx, hx⟩
  | bin o l r ihl ihr =>
    intro ⟨ho, hl, hr⟩
    have ⟨hs, hi, hx⟩ := S_bin T o l r ho (ihl hl).2.1 (ihr hr).1
    refine ⟨hs, fun j hj rest X hok hloop => ?_, hi, hx⟩
    by_cases hjo : j = T.lv o
    · subst hjo; exact S'_bin_own T o l r ho (ihl hl).2.1 (ihr hr).1 rest X hok hloop
    · exact S'_of_S T hs j (pp_bin_congr T (by omega)) hj rest X hok hloop
  | ite a c b iha ihc ihb =>
    intro ⟨ha, hc, hb⟩
    have hi := SI_ite T a c b (iha ha).2.2.2 (ihc hc).2.2.1 (ihb hb).2.2.1
    have hs : S T (.ite a c b) := fun _ => S_paren T rfl hi
    exact ⟨hs, fun j hj => S'_of_S T hs j rfl hj, hi, SX_of_S0 T rfl (hs 0 (Nat.zero_le _))⟩
  | xor a b iha ihb =>
    intro ⟨ha, hb⟩
    have hx := SX_xor T a b (iha ha).1 (ihb hb).1
    have hi := SI_of_SX T rfl hx
    have hs : S T (.xor a b) := fun _ => S_paren T rfl hi
    exact ⟨hs, fun j hj => S'_of_S T hs j rfl hj, hi, hx⟩

/-- **Parsing what the minimal-parentheses printer printed gives back the tree** — at every chain rung, with anything
behind it that the rung would not take as an operator of its own. -/
theorem parse_pp_at (e : E) (hwf : wf T e) (k : Nat) (hk : k ≤ T.n) (rest : List Tok) (hok : okRest T k rest) :
    ∃ f, parse T f k (pp T k e ++ rest) = some (e, rest) :=
  (both T e hwf).1 k hk rest hok

theorem parseIf_pp_at (e : E) (hwf : wf T e) (rest : List Tok) (hok : okRestI rest) :
    ∃ f, parseIf T f (ppI T e ++ rest) = some (e, rest) :=
  (both T e hwf).2.2.1 rest hok

/-- the whole expression: nothing left over -/
theorem parse_pp (e : E) (hwf : wf T e) : ∃ f, parseIf T f (ppI T e) = some (e, []) := by
  simpa using parseIf_pp_at T e hwf [] ⟨fun o r h => (by cases h), fun r h => (by cases h)⟩

theorem progress : ∀ f,
    (∀ k ts x, parse T f k ts = some x → x.2.length < ts.length) ∧
    (∀ k l ts x, loop T f k l ts = some x → x.2.length ≤ ts.length) ∧
    (∀ ts x, parseIf T f ts = some x → x.2.length < ts.length) ∧
    (∀ l ts x, loopIf T f l ts = some x → x.2.length ≤ ts.length) ∧
    (∀ ts x, parseX T f ts = some x → x.2.length < ts.length) :=
  -- rule by rule: what a sub-run hands on is no longer than what it got, and a consumed token makes it shorter
  run_ind (chain := fun _ hp hl => Nat.lt_of_le_of_lt hl hp) (atom := fun _ => Nat.lt_succ_self _)
    (uop := fun _ hp => Nat.lt_succ_of_lt hp) (lp := fun _ hp => Nat.lt_succ_of_lt (Nat.lt_of_succ_lt hp))
    (take := fun hp hl => Nat.le_succ_of_le (Nat.le_trans hl (Nat.le_of_lt
      (Nat.lt_of_le_of_lt (List.length_append ▸ Nat.le_add_left ..) hp))))
    (stop := fun _ => Nat.le_refl _) (cond := fun hp hl => Nat.lt_of_le_of_lt hl hp)
    (takeIf := fun hc hb hl => Nat.le_succ_of_le (Nat.le_trans hl (Nat.le_of_lt (Nat.lt_trans hb (Nat.lt_of_succ_lt hc)))))
    (stopIf := fun _ => Nat.le_refl _)
    (entw := fun ha hb => Nat.lt_succ_of_lt (Nat.lt_trans hb (Nat.lt_of_succ_lt ha))) (other := fun _ hp => hp)

section
variable {T} {f k : Nat} {ts : List Tok} {x : E × List Tok}

theorem parse_progress (h : parse T f k ts = some x) : x.2.length < ts.length := (progress T f).1 k ts x h
theorem parseIf_progress (h : parseIf T f ts = some x) : x.2.length < ts.length := (progress T f).2.2.1 ts x h
theorem parseX_progress (h : parseX T f ts = some x) : x.2.length < ts.length := (progress T f).2.2.2.2 ts x h

end

/-- fuel for chain rung `k` (or `unary` / `primary`) on `ts` -/
def bound (k : Nat) (ts : List Tok) : Nat := ts.length * (T.n + 5) + (T.n + 1 - k)
/-- fuel for `ifExpression` on `ts` -/
def boundI (ts : List Tok) : Nat := ts.length * (T.n + 5) + (T.n + 3)
/-- fuel for `boolXOR` on `ts` -/
def boundX (ts : List Tok) : Nat := ts.length * (T.n + 5) + (T.n + 2)
/-- fuel for the loop of a rung on `ts` -/
def lbound (ts : List Tok) : Nat := ts.length * (T.n + 5) + 1

/-- fuel `m * c + p` for an input of length `m`: a run on a shorter input is below it whatever its own share `q < c` is -/
theorem bound_lt {m' m c q : Nat} (p : Nat) (hm : m' < m) (hq : q < c) : m' * c + q < m * c + p :=
  calc m' * c + q < m' * c + c := Nat.add_lt_add_left hq _
    _ = (m' + 1) * c := (Nat.succ_mul ..).symm
    _ ≤ m * c := Nat.mul_le_mul_right c hm
    _ ≤ m * c + p := Nat.le_add_right ..

/-- **Whatever some amount of fuel achieves, the bound achieves**: the ladder terminates because every call either moves to a
tighter rung (of which there are `n + 1`) or has consumed a token. -/
theorem fuel_suffices : ∀ f,
    (∀ k ts x, parse T f k ts = some x → parse T (bound T k ts) k ts = some x) ∧
    (∀ k l ts x, loop T f k l ts = some x → loop T (lbound T ts) k l ts = some x) ∧
    (∀ ts x, parseIf T f ts = some x → parseIf T (boundI T ts) ts = some x) ∧
    (∀ l ts x, loopIf T f l ts = some x → loopIf T (lbound T ts) l ts = some x) ∧
    (∀ ts x, parseX T f ts = some x → parseX T (boundX T ts) ts = some x) := by
  -- each rule: the sub-runs have their bounds by induction, and each of these is below the bound of the whole: a sub-run on
  -- the same input has the smaller share, any other starts behind a token (`progress`), and all shares are below `T.n + 5`.
  -- Where the bound of the whole is by definition one more than what the rule needs (`stop`, `cond`, `other`), the rule is the proof
  have hP k : T.n + 1 - k < T.n + 5 := by omega
  have hI : T.n + 3 < T.n + 5 := by omega
  have hL : 1 < T.n + 5 := by omega
  unfold bound lbound boundI boundX
  refine run_ind ?chain ?atom ?uop ?lp ?take ?stop ?cond ?takeIf ?stopIf ?entw ?other
  case chain =>
    intro _ k ts e r x hk hp hl
    exact parse_mono (Nat.max_lt.2 ⟨Nat.add_lt_add_left (by omega) _, bound_lt _ (parse_progress hp) hL⟩)
      (parse_chain_max hk hp hl)
  case atom =>
    intro _ k n rest hk
    exact parse_mono (bound_lt _ (q := 0) (Nat.lt_succ_self _) (Nat.succ_pos _)) (parse_atom hk)
  case uop =>
    intro _ k u rest e r hk hp
    exact parse_mono (bound_lt _ (Nat.lt_succ_self _) (hP k)) (parse_uop hk hp)
  case lp =>
    intro _ k rest e r hk hp
    exact parse_mono (bound_lt _ (Nat.lt_succ_self _) hI) (parse_lp hk hp)
  case take =>
    intro _ o l rest e r x hp hl
    have hr : (clTok T o).length + r.length < rest.length := List.length_append ▸ parse_progress hp
    exact loop_mono (Nat.max_lt.2 ⟨bound_lt _ (Nat.lt_succ_self _) (hP _), bound_lt _ (m := rest.length + 1) (by omega) hL⟩)
      (loop_take_max hp hl)
  case stop => exact loop_stop
  case cond =>
    intro _ ts e r x hp hl
    exact parseIf_cond hp (loopIf_mono (Nat.le_of_lt (bound_lt _ (parseX_progress hp) hL)) hl)
  case takeIf =>
    intro _ l rest c r₁ b r₂ x hc hb hl
    have h₁ : r₁.length + 1 < rest.length := parseIf_progress hc
    have h₂ : r₂.length < r₁.length := parseIf_progress hb
    exact loopIf_mono (Nat.max_lt.2 ⟨bound_lt _ (Nat.lt_succ_self _) hI, Nat.max_lt.2
      ⟨bound_lt _ (m := rest.length + 1) (by omega) hI, bound_lt _ (m := rest.length + 1) (by omega) hL⟩⟩)
      (loopIf_take_max hc hb hl)
  case stopIf => exact loopIf_stop
  case entw =>
    intro _ rest a r₁ b r₂ ha hb
    have h₁ : r₁.length + 1 < rest.length := parse_progress ha
    exact parseX_mono (Nat.max_lt.2 ⟨bound_lt _ (Nat.lt_succ_self _) (hP 0), bound_lt _ (m := rest.length + 1) (by omega) (hP 0)⟩)
      (parseX_entw_max ha hb)
  case other => exact parseX_other

theorem parseAll_eq_some (ts : List Tok) (e : E) : parseAll T ts = some e ↔ ∃ f, parseIf T f ts = some (e, []) := by
  constructor
  · intro h
    unfold parseAll at h
    split at h
    · next e' he => cases h; exact ⟨_, he⟩
    · cases h
  · intro ⟨f, h⟩
    have := (fuel_suffices T f).2.2.1 _ _ h
    unfold boundI at this
    unfold parseAll
    rw [this]

/-- **`parse ∘ pp = id`, without fuel** -/
theorem parseAll_pp (e : E) (hwf : wf T e) : parseAll T (ppI T e) = some e :=
  (parseAll_eq_some T _ e).2 (parse_pp T e hwf)

/-- **Minimal parentheses lose nothing**: `parseAll` reads either tree back from the common spelling -/
theorem pp_injective (e₁ e₂ : E) (h₁ : wf T e₁) (h₂ : wf T e₂) (h : ppI T e₁ = ppI T e₂) : e₁ = e₂ :=
  Option.some.inj ((parseAll_pp T e₁ h₁).symm.trans (h ▸ parseAll_pp T e₂ h₂))

/-- **The ladder terminates**: from `bound` on, the fuel has no influence on what a rung answers — on *every* token
sequence, accepted or not -/
theorem fuel_irrelevant (k : Nat) (ts : List Tok) (f : Nat) (hf : bound T k ts ≤ f) :
    parse T f k ts = parse T (bound T k ts) k ts :=
  Option.ext fun x => ⟨(fuel_suffices T f).1 k ts x, parse_mono hf⟩

/-- the same for a whole expression -/
theorem fuel_irrelevantI (ts : List Tok) (f : Nat) (hf : boundI T ts ≤ f) :
    parseIf T f ts = parseIf T (boundI T ts) ts :=
  Option.ext fun x => ⟨(fuel_suffices T f).2.2.1 ts x, parseIf_mono hf⟩

/-- `rest` is what is left of `ts` after a front part was taken -/
def Suffix (rest ts : List Tok) : Prop := ∃ pre, ts = pre ++ rest

theorem Suffix.refl (ts : List Tok) : Suffix ts ts := ⟨[], rfl⟩
theorem Suffix.cons {rest ts} (t : Tok) (h : Suffix rest ts) : Suffix rest (t :: ts) := by
  obtain ⟨pre, rfl⟩ := h; exact ⟨t :: pre, rfl⟩
theorem Suffix.trans {a b c} (h1 : Suffix a b) (h2 : Suffix b c) : Suffix a c := by
  obtain ⟨p1, rfl⟩ := h1; obtain ⟨p2, rfl⟩ := h2; exact ⟨p2 ++ p1, by simp⟩
theorem Suffix.of_append {p rest ts} (h : Suffix (p ++ rest) ts) : Suffix rest ts :=
  .trans ⟨p, rfl⟩ h

/-- **The ladder reads from the front and leaves the rest alone**: no token is dropped from the middle, reordered or
invented. -/
theorem consumes_prefix : ∀ f,
    (∀ k ts x, parse T f k ts = some x → Suffix x.2 ts) ∧
    (∀ k l ts x, loop T f k l ts = some x → Suffix x.2 ts) ∧
    (∀ ts x, parseIf T f ts = some x → Suffix x.2 ts) ∧
    (∀ l ts x, loopIf T f l ts = some x → Suffix x.2 ts) ∧
    (∀ ts x, parseX T f ts = some x → Suffix x.2 ts) :=
  run_ind (chain := fun _ hp hl => hl.trans hp) (atom := fun _ => .cons _ (.refl _)) (uop := fun _ hp => hp.cons _)
    (lp := fun _ hp => .cons _ (hp.of_append (p := [_])))
    (take := fun hp hl => .cons _ (hl.trans hp.of_append)) (stop := fun _ => .refl _)
    (cond := fun hp hl => hl.trans hp)
    (takeIf := fun hc hb hl => .cons _ ((hl.trans hb).trans (hc.of_append (p := [_])))) (stopIf := fun _ => .refl _)
    (entw := fun ha hb => .cons _ (hb.trans (ha.of_append (p := [_])))) (other := fun _ hp => hp)

end DDP.LadderParse
