import DDP.Impl.OrderedMap
import DDP.Proofs.Sorted

/-!
The sorted-slice map under `Compat`: a hit of the binary search is an entry `eq` to the key whatever the predicates
are, a miss means there is none once the keys are sorted and the predicates fit together; so `Get` finds the one
entry `eq` to the key (`get_some_iff`), and `Set` keeps the keys sorted (`set_sorted`) and is read back as from an
association list (`get_set`).
-/

namespace DDP.OMap

variable {K V : Type}

/-- the contract between the two independently written predicates: `less` is a strict weak
order and `eq` is exactly its incomparability relation -/
structure Compat (eq less : K → K → Bool) : Prop where
  irrefl : ∀ a, less a a = false
  trans : ∀ a b c, less a b = true → less b c = true → less a c = true
  eq_iff : ∀ a b, eq a b = (!less a b && !less b a)
  eq_trans : ∀ a b c, eq a b = true → eq b c = true → eq a c = true

namespace Compat
variable {eq less : K → K → Bool} (h : Compat eq less)
include h

theorem eq_symm (a b : K) : eq a b = eq b a := by
  rw [h.eq_iff, h.eq_iff, Bool.and_comm]

theorem eq_refl (a : K) : eq a a = true := by simp [h.eq_iff, h.irrefl]

theorem eq_congr {a b : K} (he : eq a b = true) (c : K) : eq a c = eq b c :=
  Bool.eq_iff_iff.mpr ⟨h.eq_trans b a c (h.eq_symm a b ▸ he), h.eq_trans a b c he⟩

theorem less_not_eq (a b : K) (hl : less a b = true) : eq a b = false := by simp [h.eq_iff, hl]

theorem less_not_eq' (a b : K) (hl : less a b = true) : eq b a = false := by simp [h.eq_iff, hl]

theorem asymm (a b : K) (hl : less a b = true) : less b a = false := by
  cases hb : less b a with
  | false => rfl
  | true => have := h.trans a b a hl hb; rw [h.irrefl] at this; exact Bool.noConfusion this

theorem trichotomy (a b : K) (hne : eq a b = false) (hnl : less a b = false) : less b a = true := by
  rw [h.eq_iff, hnl] at hne; simpa using hne

theorem flip : Compat eq fun a b => less b a :=
  ⟨h.irrefl, fun a b c h1 h2 => h.trans c b a h2 h1, fun a b => by rw [h.eq_iff, Bool.and_comm], h.eq_trans⟩

theorem less_eq_right (a b c : K) (hl : less a b = true) (he : eq b c = true) : less a c = true := by
  -- `c` is neither `eq` to `a` (`b` is not) nor below it (`c < a < b` contradicts `eq b c`)
  refine h.trichotomy c a (h.eq_congr he a ▸ h.less_not_eq' a b hl) (Bool.eq_false_iff.mpr fun hca => ?_)
  rw [h.less_not_eq' c b (h.trans c a b hca hl)] at he
  cases he

theorem less_eq_left (a b c : K) (he : eq a b = true) (hl : less b c = true) : less a c = true :=
  h.flip.less_eq_right c b a hl (h.eq_symm a b ▸ he)

end Compat

/-- keys strictly increasing -/
def Sorted (less : K → K → Bool) (m : List (K × V)) : Prop :=
  m.Pairwise (fun x y => less x.1 y.1 = true)

theorem Sorted.get_lt {less : K → K → Bool} {m : List (K × V)} (hs : Sorted less m) {i j : Nat}
    (hi : i < j) (hj : j < m.length) : less (m[i]'(Nat.lt_trans hi hj)).1 (m[j]).1 = true :=
  List.pairwise_iff_getElem.mp hs i j (Nat.lt_trans hi hj) hj hi

section bsearch
variable {eq less : K → K → Bool} {m : List (K × V)} {key : K}

theorem fst_of_getElem? {i : Nat} {k : K} {v : V} (h : m[i]? = some (k, v)) : ∃ hi : i < m.length, (m[i]).1 = k := by
  obtain ⟨hi, he⟩ := List.getElem?_eq_some_iff.mp h
  exact ⟨hi, he ▸ rfl⟩

theorem bsearch_found {i : Nat} (fuel lo hi : Nat) (h : bsearch eq less m key fuel lo hi = (i, true)) :
    ∃ h : i < m.length, eq (m[i]).1 key = true := by
  fun_induction bsearch eq less m key fuel lo hi
  case case3 hm he =>
    obtain ⟨hlt, rfl⟩ := fst_of_getElem? hm
    injection h with hmi _
    exact hmi ▸ ⟨hlt, he⟩
  case case4 ih => exact ih h
  case case5 ih => exact ih h
  all_goals cases h

theorem find_found {i : Nat} (h : find eq less m key = (i, true)) : ∃ h : i < m.length, eq (m[i]).1 key = true :=
  bsearch_found _ _ _ h

theorem mid_bounds {lo hi : Nat} (h : lo < hi) : lo ≤ (lo + hi) / 2 ∧ (lo + hi) / 2 < hi := by omega

variable (hc : Compat eq less) (hs : Sorted less m)
include hc hs

/-- a search that misses has ruled out every index of its window: `mid` and what is below it when it goes right,
`mid` and what is above it when it goes left -/
theorem bsearch_missed {i : Nat} (fuel lo hi : Nat) (hf : hi - lo < fuel) (hlen : hi ≤ m.length)
    (h : bsearch eq less m key fuel lo hi = (i, false)) {j : Nat} (hj : j < m.length) (hlo : lo ≤ j) (hhi : j < hi) :
    eq (m[j]).1 key = false := by
  fun_induction bsearch eq less m key fuel lo hi
  case case1 => exact absurd hf (Nat.not_lt_zero _)
  case case2 hlt mid hm =>
    exact absurd (Nat.lt_of_lt_of_le (mid_bounds hlt).2 hlen) (Nat.not_lt.mpr (List.getElem?_eq_none_iff.mp hm))
  case case3 => cases (Prod.mk.inj h).2
  case case4 lo hi hlt mid _ _ hm hne hl ih =>
    obtain ⟨hml, rfl⟩ := fst_of_getElem? hm
    obtain ⟨_, _⟩ : lo ≤ mid ∧ mid < hi := mid_bounds hlt
    rcases Nat.lt_trichotomy j mid with hjm | rfl | hjm
    · exact hc.less_not_eq _ _ (hc.trans _ _ _ (hs.get_lt hjm hml) hl)
    · exact Bool.eq_false_iff.mpr hne
    · exact ih (by omega) hlen h hjm hhi
  case case5 lo hi hlt mid _ _ hm hne hnl ih =>
    obtain ⟨hml, rfl⟩ := fst_of_getElem? hm
    obtain ⟨_, _⟩ : lo ≤ mid ∧ mid < hi := mid_bounds hlt
    rw [Bool.not_eq_true] at hne hnl
    rcases Nat.lt_trichotomy j mid with hjm | rfl | hjm
    · exact ih (by omega) (by omega) h hlo hjm
    · exact hne
    · exact hc.less_not_eq' _ _ (hc.trans _ _ _ (hc.trichotomy _ _ hne hnl) (hs.get_lt hjm hj))
  case case6 hge => exact absurd (Nat.lt_of_le_of_lt hlo hhi) hge

theorem find_missed {i : Nat} (h : find eq less m key = (i, false)) : ∀ e ∈ m, eq e.1 key = false := by
  intro e he
  obtain ⟨j, hj, rfl⟩ := List.getElem_of_mem he
  exact bsearch_missed hc hs _ _ _ (Nat.lt_succ_self _) (Nat.le_refl _) h hj (Nat.zero_le j) hj

theorem unique_eq (key : K) {i j : Nat} (hi : i < m.length) (hj : j < m.length)
    (ei : eq (m[i]).1 key = true) (ej : eq (m[j]).1 key = true) : i = j := by
  have hij : eq (m[i]).1 (m[j]).1 = true := hc.eq_trans _ _ _ ei (hc.eq_symm key _ ▸ ej)
  rcases Nat.lt_trichotomy i j with h | h | h
  · have := hc.less_not_eq _ _ (hs.get_lt h hj); rw [hij] at this; cases this
  · exact h
  · have := hc.less_not_eq' _ _ (hs.get_lt h hi); rw [hij] at this; cases this

end bsearch

section getset
variable {eq less : K → K → Bool} (hc : Compat eq less)
include hc

theorem get_some_iff (m : List (K × V)) (hs : Sorted less m) (key : K) (v : V) :
    get eq less m key = some v ↔ ∃ e ∈ m, eq e.1 key = true ∧ e.2 = v := by
  unfold get
  cases hf : find eq less m key with | mk i b =>
  cases b with
  | true =>
    obtain ⟨hi, he⟩ := find_found hf
    simp only [List.getElem?_eq_getElem hi, Option.map_some, Option.some.injEq]
    refine ⟨fun hv => ⟨m[i], List.getElem_mem hi, he, hv⟩, ?_⟩
    rintro ⟨e, hem, hee, rfl⟩
    obtain ⟨j, hj, rfl⟩ := List.getElem_of_mem hem
    obtain rfl := unique_eq hc hs key hi hj he hee
    rfl
  | false =>
    refine ⟨fun h => (by cases h), ?_⟩
    rintro ⟨e, hem, hee, _⟩
    rw [find_missed hc hs hf e hem] at hee; cases hee

theorem get_none_iff (m : List (K × V)) (hs : Sorted less m) (key : K) :
    get eq less m key = none ↔ ∀ e ∈ m, eq e.1 key = false := by
  simp only [Option.eq_none_iff_forall_ne_some, ne_eq, get_some_iff hc m hs]
  exact ⟨fun h e he => Bool.eq_false_iff.mpr fun hee => h e.2 ⟨e, he, hee, rfl⟩,
    fun h v ⟨e, he, hee, _⟩ => by rw [h e he] at hee; cases hee⟩

theorem get_congr (m : List (K × V)) (hs : Sorted less m) (k k' : K) (he : eq k k' = true) :
    get eq less m k = get eq less m k' := by
  apply Option.ext
  intro u
  simp only [get_some_iff hc m hs, hc.eq_symm _ k, hc.eq_symm _ k', hc.eq_congr he]

omit hc in
theorem insertSorted_eq (key : K) (v : V) : ∀ m : List (K × V),
    insertSorted less key v m = insertBefore (fun e => less key e.1) (key, v) m
  | [] => rfl
  | (k, w) :: rest => by rw [insertSorted, insertBefore, insertSorted_eq key v rest]

omit hc in
theorem modify_sorted (m : List (K × V)) (hs : Sorted less m) (i : Nat) (v : V) :
    Sorted less (m.modify i (fun e => (e.1, v))) := by
  unfold Sorted at *
  rw [List.pairwise_iff_getElem] at *
  intro a b ha hb hab
  simp only [List.length_modify] at ha hb
  have := hs a b ha hb hab
  simp only [List.getElem_modify]
  split <;> split <;> simpa using this

theorem set_sorted (m : List (K × V)) (hs : Sorted less m) (key : K) (v : V) :
    Sorted less (set eq less m key v) := by
  unfold set
  cases hf : find eq less m key with | mk i b =>
  cases b with
  | true => exact modify_sorted m hs i v
  | false =>
    have hno := find_missed hc hs hf
    rw [insertSorted_eq]
    exact pairwise_insertBefore hs
      (fun e he hl => hc.trichotomy key e.1 (hc.eq_symm e.1 key ▸ hno e he) (by simpa using hl))
      (fun e _ hl => ⟨hl, fun z hz => hc.trans _ _ _ hl hz⟩)

/-- `k₀` is the stored key in case of a hit, `key` itself otherwise -/
theorem mem_set (m : List (K × V)) (hs : Sorted less m) (key : K) (v : V) :
    ∃ k₀, eq k₀ key = true ∧ ∀ e, e ∈ set eq less m key v ↔ e = (k₀, v) ∨ (e ∈ m ∧ eq e.1 key = false) := by
  unfold set
  cases hf : find eq less m key with | mk i b =>
  cases b with
  | false =>
    refine ⟨key, hc.eq_refl key, fun e => ?_⟩
    rw [insertSorted_eq, mem_insertBefore]
    exact or_congr_right ⟨fun h => ⟨h, find_missed hc hs hf e h⟩, And.left⟩
  | true =>
    obtain ⟨hi, he⟩ := find_found hf
    refine ⟨(m[i]).1, he, fun e => ?_⟩
    simp only [List.mem_iff_getElem, List.length_modify, List.getElem_modify]
    constructor
    · rintro ⟨j, hj, rfl⟩
      split
      · next hij => subst hij; exact .inl rfl
      · next hij => exact .inr ⟨⟨j, hj, rfl⟩, Bool.eq_false_iff.mpr fun hej => hij (unique_eq hc hs key hi hj he hej)⟩
    · rintro (rfl | ⟨⟨j, hj, rfl⟩, hej⟩)
      · exact ⟨i, hi, by simp⟩
      · exact ⟨j, hj, by rw [if_neg]; rintro rfl; rw [he] at hej; cases hej⟩

theorem get_set (m : List (K × V)) (hs : Sorted less m) (key : K) (v : V) (k' : K) :
    get eq less (set eq less m key v) k' = if eq key k' then some v else get eq less m k' := by
  obtain ⟨k₀, hk₀, hmem⟩ := mem_set hc m hs key v
  have hs' := set_sorted hc m hs key v
  have h₀ : eq k₀ k' = eq key k' := hc.eq_congr hk₀ k'
  cases hk : eq key k' with
  | true => exact (get_some_iff hc _ hs' k' v).mpr ⟨(k₀, v), (hmem _).mpr (.inl rfl), h₀.trans hk, rfl⟩
  | false =>
    -- the entries `eq` to `k'` are those of `m`: none of them is `eq` to `key`
    apply Option.ext
    intro u
    rw [if_neg Bool.false_ne_true, get_some_iff hc _ hs', get_some_iff hc m hs]
    refine exists_congr fun e => and_congr_left fun ⟨hee, _⟩ => ?_
    have hne : eq e.1 key = false := by rw [hc.eq_congr hee key, hc.eq_symm, hk]
    rw [hmem, hne, and_iff_left rfl]
    exact or_iff_right fun h => by rw [h, h₀, hk] at hee; cases hee

end getset

end DDP.OMap
