import DDP.Impl.TextRT
import DDP.Proofs.Utf8

/-!
Lemmas for `Props/C12.lean`: the byte-level text runtime refines code-point lists.

The block of a canonical text is `encodeAll cps ++ [0]`.  Every loop of the runtime stands, at
each step, at a cursor `off cps k`, the byte offset of some code point `k`; the lemmas `*_off`
say what the runtime reads there, so that the loops are inductions on the number of steps and no
operation has to take the block apart again.
-/

namespace DDP.TextRT
open DDP.Utf8

/-- the code points a Text can hold -/
def WfCps (cps : List Nat) : Prop := ∀ c ∈ cps, isScalar c = true ∧ c ≠ 0

/-- the canonical representation: UTF-8 bytes, one NUL, `cap = strlen + 1 = block size`;
the empty text is `(NULL, 0)` -/
def repr (cps : List Nat) : Text :=
  if cps.isEmpty then emptyText else ⟨encodeAll cps ++ [0], (encodeAll cps).length + 1⟩

def Inv (t : Text) : Prop := ∃ cps, WfCps cps ∧ t = repr cps

variable {c : Nat} {cs cps : List Nat}

theorem WfCps.nil : WfCps [] := fun _ h => nomatch h

theorem WfCps.cons (hs : isScalar c = true) (h0 : c ≠ 0) (h : WfCps cs) : WfCps (c :: cs) :=
  List.forall_mem_cons.mpr ⟨⟨hs, h0⟩, h⟩

theorem WfCps.head (h : WfCps (c :: cs)) : isScalar c = true ∧ c ≠ 0 := (List.forall_mem_cons.mp h).1

theorem WfCps.tail (h : WfCps (c :: cs)) : WfCps cs := (List.forall_mem_cons.mp h).2

theorem WfCps.append {a b : List Nat} (ha : WfCps a) (hb : WfCps b) : WfCps (a ++ b) :=
  List.forall_mem_append.mpr ⟨ha, hb⟩

theorem WfCps.sub {a b : List Nat} (h : WfCps a) (hs : b ⊆ a) : WfCps b := fun x hx => h x (hs hx)

theorem WfCps.getElem (h : WfCps cps) {k : Nat} (hk : k < cps.length) : isScalar cps[k] = true ∧ cps[k] ≠ 0 :=
  h _ (List.getElem_mem hk)

theorem WfCps.set (h : WfCps cps) (k : Nat) (hs : isScalar c = true) (h0 : c ≠ 0) : WfCps (cps.set k c) := by
  intro x hx
  rcases List.mem_or_eq_of_mem_set hx with hx | rfl
  · exact h x hx
  · exact ⟨hs, h0⟩

theorem encodeAll_nil : encodeAll [] = [] := rfl
theorem encodeAll_cons (c : Nat) (cs : List Nat) : encodeAll (c :: cs) = encode c ++ encodeAll cs := by
  simp [encodeAll]
theorem encodeAll_singleton (c : Nat) : encodeAll [c] = encode c := by simp [encodeAll]
theorem encodeAll_append (a b : List Nat) : encodeAll (a ++ b) = encodeAll a ++ encodeAll b := by
  simp [encodeAll]

theorem encodeAll_take_succ (cps : List Nat) (k : Nat) (hk : k < cps.length) :
    encodeAll (cps.take (k + 1)) = encodeAll (cps.take k) ++ encode cps[k] := by
  rw [List.take_succ_eq_append_getElem hk, encodeAll_append, encodeAll_singleton]

theorem encodeAll_split (cps : List Nat) (k : Nat) :
    encodeAll (cps.take k) ++ encodeAll (cps.drop k) = encodeAll cps := by
  rw [← encodeAll_append, List.take_append_drop]

theorem encodeAll_split_at {k : Nat} (hk : k < cps.length) :
    encodeAll cps = encodeAll (cps.take k) ++ (encode cps[k] ++ encodeAll (cps.drop (k + 1))) := by
  rw [← encodeAll_cons, ← List.drop_eq_getElem_cons hk, encodeAll_split]

theorem encodeAll_set {k : Nat} (hk : k < cps.length) (cn : Nat) :
    encodeAll (cps.set k cn) = encodeAll (cps.take k) ++ (encode cn ++ encodeAll (cps.drop (k + 1))) := by
  rw [List.set_eq_take_append_cons_drop, if_pos hk, encodeAll_append, encodeAll_cons]

theorem encodeAll_bytes (h : WfCps cps) : ∀ b ∈ encodeAll cps, 0 < b ∧ b < 256 := by
  intro b hb
  obtain ⟨l, hl, hb⟩ := List.mem_flatten.mp hb
  obtain ⟨c, hc, rfl⟩ := List.mem_map.mp hl
  exact (encode_shape_of_isScalar (h c hc).1).bytes (h c hc).2 b hb

theorem length_le_encodeAll (h : WfCps cps) : cps.length ≤ (encodeAll cps).length := by
  induction cps with
  | nil => exact Nat.le_refl 0
  | cons c cs ih =>
    have := (encode_shape_of_isScalar h.head.1).length_pos
    have := ih h.tail
    rw [encodeAll_cons, List.length_append, List.length_cons]
    omega

theorem isEmpty_encodeAll (h : WfCps cps) : (encodeAll cps).isEmpty = cps.isEmpty := by
  cases cps with
  | nil => rfl
  | cons c cs => simp [encodeAll_cons, List.ne_nil_of_length_pos (encode_shape_of_isScalar h.head.1).length_pos]

theorem cstr_zero (rest : List Nat) : cstr (0 :: rest) = [] := rfl

theorem cstr_encodeAll (h : WfCps cps) (rest : List Nat) :
    cstr (encodeAll cps ++ rest) = encodeAll cps ++ cstr rest :=
  List.takeWhile_append_of_pos fun b hb => by simpa using Nat.ne_of_gt (encodeAll_bytes h b hb).1

theorem strlenCp_encodeAll (h : WfCps cps) (rest : List Nat) :
    strlenCp (encodeAll cps ++ 0 :: rest) = cps.length := by
  rw [strlenCp, cstr_encodeAll h, cstr_zero, List.append_nil]
  induction cps with
  | nil => rfl
  | cons c cs ih =>
    rw [encodeAll_cons, List.filter_append, List.length_append,
      (encode_shape_of_isScalar h.head.1).continuations, ih h.tail, List.length_cons, Nat.add_comm]

theorem repr_nil : repr [] = emptyText := rfl

theorem repr_cons (c : Nat) (cs : List Nat) :
    repr (c :: cs) = ⟨encodeAll (c :: cs) ++ [0], (encodeAll (c :: cs)).length + 1⟩ := rfl

theorem repr_of_ne_nil (h : cps ≠ []) : repr cps = ⟨encodeAll cps ++ [0], (encodeAll cps).length + 1⟩ := by
  cases cps with
  | nil => exact absurd rfl h
  | cons c cs => rfl

theorem length_buf_repr (cps : List Nat) : (repr cps).buf.length = (repr cps).cap := by
  cases cps with
  | nil => rfl
  | cons c cs => simp [repr_cons]

theorem take_cap_repr (cps : List Nat) : (repr cps).buf.take (repr cps).cap = (repr cps).buf :=
  List.take_of_length_le (Nat.le_of_eq (length_buf_repr cps))

/-- the first `cap - 1` bytes of the block are the encoding: the last one is the NUL -/
theorem take_pred_cap_repr (cps : List Nat) : (repr cps).buf.take ((repr cps).cap - 1) = encodeAll cps := by
  cases cps with
  | nil => rfl
  | cons c cs => rw [repr_cons]; exact List.take_left' rfl

theorem cap_repr (h : WfCps cps) :
    (repr cps).cap = if (encodeAll cps).length = 0 then 0 else (encodeAll cps).length + 1 := by
  cases cps with
  | nil => rfl
  | cons c cs =>
    have := length_le_encodeAll h
    rw [repr_cons, if_neg (Nat.ne_of_gt (Nat.lt_of_lt_of_le (Nat.succ_pos _) this))]

theorem isEmpty_repr (h : WfCps cps) : isEmpty (repr cps) = cps.isEmpty := by
  cases cps with
  | nil => rfl
  | cons c cs =>
    have := (encode_shape_of_isScalar h.head.1).headD_ne_zero h.head.2 (encodeAll cs ++ [0])
    simpa [isEmpty, repr_cons, encodeAll_cons] using this

theorem strlen_repr (h : WfCps cps) : strlen (repr cps) = (encodeAll cps).length := by
  cases cps with
  | nil => rfl
  | cons c cs => rw [strlen, repr_cons, cstr_encodeAll h, cstr_zero, List.append_nil]

theorem fromConstant_encodeAll (h : WfCps cps) {rest : List Nat} (hr : cstr rest = []) :
    fromConstant (encodeAll cps ++ rest) = repr cps := by
  rw [fromConstant, cstr_encodeAll h, hr, List.append_nil, isEmpty_encodeAll h]
  rfl

theorem fromConstant_encode (hs : isScalar c = true) (h0 : c ≠ 0) : fromConstant (encode c) = repr [c] := by
  have := fromConstant_encodeAll (.cons hs h0 .nil) (rest := []) rfl
  rwa [encodeAll_singleton, List.append_nil] at this

theorem deepCopy_repr (cps : List Nat) : deepCopy (repr cps) = repr cps := by
  cases cps with
  | nil => rfl
  | cons c cs => rw [deepCopy, take_cap_repr, if_neg (by simp [repr_cons])]

theorem charBytes_scalar (hs : isScalar c = true) : charBytes (c : Int) = some (encode c) := by
  simp [charBytes, hs]

/-- `Buchstabe als Text` -/
theorem charToString_repr (hs : isScalar c = true) : charToString (c : Int) = repr [c] := by
  simp [charToString, charBytes_scalar hs, repr, encodeAll]

def off (cps : List Nat) (k : Nat) : Nat := (encodeAll (cps.take k)).length

theorem off_zero (cps : List Nat) : off cps 0 = 0 := rfl

theorem off_succ {k : Nat} (hk : k < cps.length) : off cps (k + 1) = off cps k + (encode cps[k]).length := by
  rw [off, encodeAll_take_succ cps k hk, List.length_append, off]

theorem off_of_le {k : Nat} (hk : cps.length ≤ k) : off cps k = (encodeAll cps).length := by
  rw [off, List.take_of_length_le hk]

theorem off_le (cps : List Nat) (k : Nat) : off cps k ≤ (encodeAll cps).length := by
  rw [← encodeAll_split cps k, List.length_append]
  exact Nat.le_add_right _ _

theorem off_add (cps : List Nat) (k m : Nat) :
    off cps (k + m) = off cps k + (encodeAll ((cps.drop k).take m)).length := by
  rw [off, List.take_add, encodeAll_append, List.length_append, off]

theorem drop_off (cps : List Nat) (k : Nat) (rest : List Nat) :
    (encodeAll cps ++ rest).drop (off cps k) = encodeAll (cps.drop k) ++ rest := by
  rw [← encodeAll_split cps k, List.append_assoc]
  exact List.drop_left

theorem take_off (cps : List Nat) (k : Nat) (rest : List Nat) :
    (encodeAll cps ++ rest).take (off cps k) = encodeAll (cps.take k) := by
  rw [← encodeAll_split cps k, List.append_assoc]
  exact List.take_left

theorem take_drop_off (cps : List Nat) (k m : Nat) (rest : List Nat) :
    ((encodeAll cps ++ rest).drop (off cps k)).take (off cps (k + m) - off cps k) =
      encodeAll ((cps.drop k).take m) := by
  rw [drop_off, off_add, Nat.add_sub_cancel_left]
  exact take_off (cps.drop k) m rest

/-- the bytes between two cursors, NUL-terminated, are the text of the code points between them -/
theorem repr_take_drop {k : Nat} (hk : k < cps.length) (m : Nat) (rest : List Nat) :
    repr ((cps.drop k).take (m + 1)) =
      ⟨((encodeAll cps ++ rest).drop (off cps k)).take (off cps (k + (m + 1)) - off cps k) ++ [0],
        off cps (k + (m + 1)) - off cps k + 1⟩ := by
  rw [take_drop_off, off_add, Nat.add_sub_cancel_left, List.drop_eq_getElem_cons hk, List.take_succ_cons]
  rfl

theorem drop_off_lt {k : Nat} (hk : k < cps.length) (rest : List Nat) :
    (encodeAll cps ++ rest).drop (off cps k) = encode cps[k] ++ (encodeAll (cps.drop (k + 1)) ++ rest) := by
  rw [drop_off, List.drop_eq_getElem_cons hk, encodeAll_cons, List.append_assoc]

theorem getD_eq_headD_drop {α} (l : List α) (i : Nat) (d : α) : l.getD i d = (l.drop i).headD d := by
  simp [List.getD_eq_getElem?_getD, List.headD_eq_head?_getD]

section
variable (h : WfCps cps) {k : Nat} (hk : k < cps.length) (rest : List Nat)
include h hk

theorem getD_off_lt : (encodeAll cps ++ rest).getD (off cps k) 0 ≠ 0 := by
  rw [getD_eq_headD_drop, drop_off_lt hk]
  exact (encode_shape_of_isScalar (h.getElem hk).1).headD_ne_zero (h.getElem hk).2 _

theorem indicated_off : indicatedNumBytes ((encodeAll cps ++ rest).getD (off cps k) 0) = (encode cps[k]).length := by
  rw [getD_eq_headD_drop, drop_off_lt hk]
  exact (encode_shape_of_isScalar (h.getElem hk).1).indicated _

theorem numBytes_off : numBytes ((encodeAll cps ++ rest).drop (off cps k)) = (encode cps[k]).length := by
  rw [drop_off_lt hk]
  exact (encode_shape_of_isScalar (h.getElem hk).1).numBytes_eq (h.getElem hk).2 _

theorem decode1_off : decode1 ((encodeAll cps ++ rest).drop (off cps k)) = cps[k] := by
  rw [drop_off_lt hk]
  exact (encode_shape_of_isScalar (h.getElem hk).1).decode1_eq (h.getElem hk).2 _

omit rest in
theorem off_lt : off cps k < (encodeAll cps).length := by
  have := (encode_shape_of_isScalar (h.getElem hk).1).length_pos
  have := off_le cps (k + 1)
  rw [off_succ hk] at this
  omega

end

theorem getD_off_ge {k : Nat} (hk : cps.length ≤ k) (rest : List Nat) :
    (encodeAll cps ++ 0 :: rest).getD (off cps k) 0 = 0 := by
  rw [getD_eq_headD_drop, drop_off, List.drop_of_length_le hk]
  rfl

/-- the walk of `ddp_string_index`/`ddp_replace_char_in_string`: `m` steps from code point `k`
end on code point `k + m`, or on the NUL if there are fewer -/
theorem walk_off (h : WfCps cps) (rest : List Nat) (m : Nat) : ∀ k,
    walk (encodeAll cps ++ 0 :: rest) (off cps k) (m + 1) = off cps (k + m) := by
  induction m with
  | zero => intro k; rfl
  | succ m ih =>
    intro k
    rw [walk, if_neg (Nat.succ_ne_zero m)]
    by_cases hk : k < cps.length
    · rw [if_pos (bne_iff_ne.mpr (getD_off_lt h hk _)), numBytes_off h hk, ← off_succ hk, ih,
        Nat.add_right_comm, Nat.add_assoc]
    · rw [if_neg (by rw [getD_off_ge (Nat.le_of_not_lt hk)]; decide), off_of_le (by omega), off_of_le (by omega)]

/-- … as both call it: from the start, with the 1-based index `i` as the count -/
theorem walk_index (h : WfCps cps) (rest : List Nat) {i : Int} (hi : 1 ≤ i) :
    walk (encodeAll cps ++ 0 :: rest) 0 i.toNat = off cps (i - 1).toNat := by
  have := walk_off h rest (i - 1).toNat 0
  rwa [off_zero, Nat.zero_add, show (i - 1).toNat + 1 = i.toNat by omega] at this

theorem sliceWalk_off (h : WfCps cps) (rest : List Nat) (m : Nat) : ∀ k fuel, k + m ≤ cps.length → m < fuel →
    sliceWalk (encodeAll cps ++ 0 :: rest) fuel (off cps k) k (k + m) = (off cps (k + m), k + m) := by
  induction m with
  | zero =>
    intro k fuel _ hf
    cases fuel with
    | zero => omega
    | succ f => simp [sliceWalk]
  | succ m ih =>
    intro k fuel hk hf
    cases fuel with
    | zero => omega
    | succ f =>
      have hk' : k < cps.length := by omega
      rw [sliceWalk, if_pos (by simpa using getD_off_lt h hk' _), indicated_off h hk', ← off_succ hk',
        show k + (m + 1) = k + 1 + m by omega]
      exact ih (k + 1) f (by omega) (by omega)

theorem iterate_off (h : WfCps cps) (rest : List Nat) (fuel : Nat) : ∀ k, cps.length - k < fuel →
    iterate ⟨encodeAll cps ++ 0 :: rest, (encodeAll cps).length + 1⟩ fuel (off cps k) = .ok (cps.drop k) := by
  induction fuel with
  | zero => intro k hf; omega
  | succ f ih =>
    intro k hf
    rw [iterate]
    simp only [Bool.or_eq_true, decide_eq_true_eq, beq_iff_eq, List.length_append, List.length_cons]
    by_cases hk : k < cps.length
    · have := off_lt h hk
      have := (encode_shape_of_isScalar (h.getElem hk).1).length_pos
      rw [if_neg (by omega), if_neg (by omega), numBytes_off h hk, decode1_off h hk, if_neg (by omega), ← off_succ hk,
        ih (k + 1) (by omega), List.drop_eq_getElem_cons hk]
    · rw [if_pos (by rw [off_of_le (by omega)]; omega), List.drop_of_length_le (by omega)]

theorem decodeAll_succ {s : List Nat} (fuel : Nat) (hb : s.headD 0 ≠ 0) (hn : numBytes s ≠ 0) :
    decodeAll (fuel + 1) s = decode1 s :: decodeAll fuel (s.drop (numBytes s)) := by
  cases s with
  | nil => exact absurd rfl hb
  | cons b bs => simp_all [decodeAll]

theorem decodeAll_encodeAll (cps : List Nat) (h : WfCps cps) (rest : List Nat) :
    ∀ fuel, cps.length < fuel → decodeAll fuel (encodeAll cps ++ 0 :: rest) = cps := by
  induction cps with
  | nil => intro fuel hf; cases fuel with
    | zero => omega
    | succ f => rfl
  | cons c cs ih =>
    intro fuel hf
    cases fuel with
    | zero => omega
    | succ f =>
      have sh := encode_shape_of_isScalar h.head.1
      have hn := sh.numBytes_eq h.head.2 (encodeAll cs ++ 0 :: rest)
      rw [encodeAll_cons, List.append_assoc, decodeAll_succ f (sh.headD_ne_zero h.head.2 _)
        (by rw [hn]; exact Nat.ne_of_gt sh.length_pos), hn, sh.decode1_eq h.head.2, List.drop_left,
        ih h.tail f (by simpa using hf)]

/-- the common prologue of `ddp_string_index` and `ddp_replace_char_in_string`: a Laufzeitfehler
exactly outside `1 … length`, whatever follows -/
theorem prologue_repr {α} (h : WfCps cps) (i : Int) (X : Res α) :
    (if i < 1 then .err else if i > (repr cps).cap || (repr cps).cap ≤ 1 then .err
      else if (repr cps).buf.getD (walk (repr cps).buf 0 i.toNat) 0 == 0 then .err else X) =
    if 1 ≤ i ∧ i ≤ cps.length then X else .err := by
  by_cases h1 : i < 1
  · rw [if_pos h1, if_neg (by omega)]
  rw [if_neg h1]
  by_cases hne : cps = []
  · subst hne
    rw [if_pos (by simp [repr_nil, emptyText]), if_neg (by simp; omega)]
  have := length_le_encodeAll h
  have hpos := List.length_pos_iff.mpr hne
  rw [repr_of_ne_nil hne]
  simp only [Bool.or_eq_true, decide_eq_true_eq, beq_iff_eq]
  rw [walk_index h [] (by omega)]
  by_cases hi : i ≤ cps.length
  · rw [if_neg (by omega), if_neg (getD_off_lt h (k := (i - 1).toNat) (by omega) _), if_pos ⟨by omega, hi⟩]
  · rw [getD_off_ge (by omega), if_pos rfl, ite_self, if_neg (c := _ ∧ _) (fun hh => hi hh.2)]

theorem clampI_range (i : Int) {n : Int} (hn : 0 < n) : 1 ≤ clampI i 1 n ∧ clampI i 1 n ≤ n := by
  simp only [clampI]; omega

/-- 1-based bounds `a … b` as a 0-based start and a distance -/
theorem toNat_span {a b : Int} (ha : 1 ≤ a) (hab : a ≤ b) : (b - 1).toNat = (a - 1).toNat + (b - a).toNat := by
  rw [← Int.toNat_add (by omega) (by omega)]
  congr 1; omega

end DDP.TextRT
