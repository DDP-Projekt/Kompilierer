import DDP.Generated.Keywords

/-!
# L1 model of `src/scanner/scanner.go`

Transcribed rune by rune: `advance` increments the column, `increaseLineBeforeAdvance`
bumps the line and resets column/indent, every sub-scanner is a structural recursion
over the remaining input that returns the state after it, the characters it consumed
and the remaining input.  The UTF-8 gate (`utf8.Valid`) is outside this file
(`DDP/Impl/Utf8.lean`); here the source is a `List Char`.

Token types and the keyword table come from `DDP.Generated.Keywords` (T-gen).
-/

namespace DDP.Scanner
open DDP.Generated

structure Pos where
  line : Nat
  col : Nat
  deriving DecidableEq, Repr, Inhabited

structure Mode where
  strict : Bool   -- ModeStrictCapitalization
  alias : Bool    -- ModeAlias
  deriving DecidableEq, Repr

/-- scanner fields that change while scanning (besides the read offset) -/
structure St where
  pos : Pos
  indent : Nat
  shouldIndent : Bool
  shouldCapitalize : Bool
  deriving DecidableEq, Repr

def isDigit (c : Char) : Bool := '0'.val ≤ c.val && c.val ≤ '9'.val

def isAlpha (c : Char) : Bool :=
  ('a'.val ≤ c.val && c.val ≤ 'z'.val) || ('A'.val ≤ c.val && c.val ≤ 'Z'.val) ||
  c == 'ß' || c == '_' || c == 'ä' || c == 'Ä' || c == 'ö' || c == 'Ö' || c == 'ü' || c == 'Ü'

def isAlphaNumeric (c : Char) : Bool := isAlpha c || isDigit c

def isSpace (c : Char) : Bool := c == ' ' || c == '\r' || c == '\n' || c == '\t'

def isUpper (c : Char) : Bool :=
  ('A'.val ≤ c.val && c.val ≤ 'Z'.val) || c == 'Ä' || c == 'Ü' || c == 'Ö'

/-- `strings.ToLower` restricted to what can occur in an identifier (exact there);
on other characters only the fact that it never produces a keyword matters. -/
def toLowerChar (c : Char) : Char :=
  if 'A'.val ≤ c.val && c.val ≤ 'Z'.val then Char.ofNat (c.toNat + 32)
  else if c == 'Ä' then 'ä' else if c == 'Ö' then 'ö' else if c == 'Ü' then 'ü' else c

def lookupKw (w : List Char) : Option TokenType :=
  (keywordMap.find? (fun e => e.1.toList == w)).map (·.2)

/-- `token.KeywordToTokenType` -/
def keywordToTokenType (w : List Char) : TokenType := (lookupKw w).getD .IDENTIFIER

/-- `Scanner.identifierType` -/
def identifierType (lit : List Char) : TokenType :=
  let t := keywordToTokenType lit
  if t = .IDENTIFIER then keywordToTokenType (lit.map toLowerChar) else t

/-- `advance`: column++ ; `shouldIndent` is cleared by the first non-space rune -/
def St.adv (s : St) (c : Char) : St :=
  { s with pos := ⟨s.pos.line, s.pos.col + 1⟩, shouldIndent := s.shouldIndent && isSpace c }

/-- `increaseLineBeforeAdvance` -/
def St.incLine (s : St) : St :=
  { s with pos := ⟨s.pos.line + 1, 0⟩, indent := 0, shouldIndent := true }

/-- consume one rune the way `skipWhitespace`, `string`, `char` and the comment loop do:
a line break goes through `increaseLineBeforeAdvance` first -/
def St.advNl (s : St) (c : Char) : St :=
  if c = '\n' then s.incLine.adv c else s.adv c

def St.advs (s : St) (cs : List Char) : St := cs.foldl St.adv s

inductive DCode | malformedLiteral | malformedAlias | expectedCapital
  deriving DecidableEq, Repr

structure Diag where
  code : DCode
  start : Pos
  stop : Pos
  deriving DecidableEq, Repr

structure Tok where
  type : TokenType
  literal : List Char
  indent : Nat
  start : Pos
  stop : Pos
  deriving DecidableEq, Repr

/-- result of a sub-scanner -/
structure Sub where
  st : St
  consumed : List Char
  rest : List Char
  diags : List Diag := []
  flag : Bool := false       -- terminated (string/char) resp. closed (placeholder)
  flag2 : Bool := false      -- gotBackslash
  deriving Repr

def Sub.cons (c : Char) (r : Sub) : Sub := { r with consumed := c :: r.consumed }
def Sub.cons2 (c d : Char) (r : Sub) : Sub := { r with consumed := c :: d :: r.consumed }
def Sub.addDiag (d : Diag) (r : Sub) : Sub := { r with diags := d :: r.diags }
def Sub.setBackslash (r : Sub) : Sub := { r with flag2 := true }

/-- `skipWhitespace`; `n` is `consecutiveSpaceCount` -/
def skipWs : St → Nat → List Char → Sub
  | s, _, [] => { st := s, consumed := [], rest := [] }
  | s, n, c :: cs =>
    if c = ' ' then
      if s.shouldIndent && n + 1 == 4 then
        (skipWs ({ s with indent := s.indent + 1 }.adv c) 0 cs).cons c
      else (skipWs (s.adv c) (n + 1) cs).cons c
    else if c = '\r' then (skipWs (s.adv c) 0 cs).cons c
    else if c = '\t' then
      (skipWs ((if s.shouldIndent then { s with indent := s.indent + 1 } else s).adv c) 0 cs).cons c
    else if c = '\n' then (skipWs (s.incLine.adv c) 0 cs).cons c
    else { st := s, consumed := [], rest := c :: cs }

def isEscape (q d : Char) : Bool :=
  d == 'a' || d == 'b' || d == 'n' || d == 'r' || d == 't' || d == '\\' || d == q

/-- body of `string()` / `char()` after the opening quote: scans up to and including
the closing quote (`flag = true`) or to the end of input (`flag = false`). -/
def scanQuoted (q : Char) : St → List Char → Sub
  | s, [] => { st := s, consumed := [], rest := [] }
  | s, c :: cs =>
    if c = q then { st := s.adv c, consumed := [c], rest := cs, flag := true }
    else if c = '\n' then (scanQuoted q (s.incLine.adv c) cs).cons c
    else if c = '\\' then
      match cs with
      | d :: ds =>
        if isEscape q d then
          -- scanEscape advances over the backslash, the loop's advance over `d`
          ((scanQuoted q ((s.adv c).adv d) ds).cons2 c d).setBackslash
        else
          -- a backslash that is the last character of its line: the range ends behind it, inside that line
          (((scanQuoted q (s.adv c) (d :: ds)).cons c).setBackslash).addDiag
            ⟨.malformedLiteral, s.pos, ⟨s.pos.line, s.pos.col + (if d = '\n' then 1 else 2)⟩⟩
      | [] =>
        -- the backslash is the last character of the source: the range ends behind it (inside the file)
        ((({ st := s.adv c, consumed := [], rest := [] } : Sub).cons c).setBackslash).addDiag
          ⟨.malformedLiteral, s.pos, ⟨s.pos.line, s.pos.col + 1⟩⟩
    else (scanQuoted q (s.adv c) cs).cons c
termination_by _ cs => cs.length

/-- the `[ ... ]` loop after the opening bracket; `depth` is `bracketCount` -/
def scanComment : St → Nat → List Char → Sub
  | s, _, [] => { st := s, consumed := [], rest := [] }
  | s, 0, cs => { st := s, consumed := [], rest := cs }
  | s, depth + 1, c :: cs =>
    let depth' := if c = '[' then depth + 2 else if c = ']' then depth else depth + 1
    (scanComment (s.advNl c) depth' cs).cons c

def takeWhileSt (p : Char → Bool) : St → List Char → Sub
  | s, [] => { st := s, consumed := [], rest := [] }
  | s, c :: cs => if p c then (takeWhileSt p (s.adv c) cs).cons c else { st := s, consumed := [], rest := c :: cs }

/-- `number()` after the first digit -/
def scanNumber (s : St) (cs : List Char) : Sub × Bool :=
  let r := takeWhileSt isDigit s cs
  match r.rest with
  | c :: d :: ds =>
    if c = ',' && isDigit d then
      let r2 := takeWhileSt isDigit (r.st.adv c) (d :: ds)
      ({ st := r2.st, consumed := r.consumed ++ c :: r2.consumed, rest := r2.rest }, true)
    else (r, false)
  | _ => (r, false)

/-- loop of `aliasParameter`: runes up to (not including) `>`; a diagnostic for each
rune that is not alphanumeric, with `currentRange()` after consuming it -/
def scanPlaceholderBody (start : Pos) : St → List Char → Sub
  | s, [] => { st := s, consumed := [], rest := [] }
  | s, c :: cs =>
    if c = '>' then { st := s, consumed := [], rest := c :: cs }
    else
      let s' := s.adv c
      let r := (scanPlaceholderBody start s' cs).cons c
      if isAlphaNumeric c then r else r.addDiag ⟨.malformedAlias, start, s'.pos⟩

def utf8Len (cs : List Char) : Nat := (cs.map (fun c => c.utf8Size)).sum

/-- `aliasParameter()`; `lt` is the already consumed `<`, `start` the token start -/
def scanPlaceholder (start : Pos) (lt : Char) (s : St) (cs : List Char) : Sub :=
  let d1 : List Diag := match cs with
    | c :: _ => if isAlpha c then [] else [⟨.malformedAlias, start, s.pos⟩]
    | [] => [⟨.malformedAlias, start, s.pos⟩]
  let r := scanPlaceholderBody start s cs
  -- closing `>`
  let (st2, cons2, rest2, d2, closed) : St × List Char × List Char × List Diag × Bool :=
    match r.rest with
    | c :: cs' => (r.st.adv c, r.consumed ++ [c], cs', [], true)
    | [] => (r.st, r.consumed, [], [⟨.malformedAlias, start, r.st.pos⟩], false)
  let d3 : List Diag :=
    if utf8Len (lt :: cons2) ≤ 2 && !rest2.isEmpty then [⟨.malformedAlias, start, st2.pos⟩] else []
  let d4 : List Diag :=
    if identifierType (lt :: cons2) ≠ .IDENTIFIER then [⟨.malformedAlias, start, st2.pos⟩] else []
  { st := st2, consumed := cons2, rest := rest2, diags := d1 ++ r.diags ++ d2 ++ d3 ++ d4, flag := closed }

/-- one scanned segment of the source: the blanks skipped before the token, the
characters the token covers, the token -/
structure Seg where
  gap : List Char
  body : List Char
  tok : Tok
  deriving Repr

structure Step where
  seg : Seg
  st : St
  rest : List Char
  diags : List Diag

def mkTok (ty : TokenType) (start : Pos) (s : St) (lit : List Char) : Tok × St :=
  (⟨ty, lit, s.indent, start, s.pos⟩,
   { s with shouldCapitalize := (ty = .DOT || ty = .COLON) })

def illegalMsgString : List Char := "ein Offenes Text Literal".toList
def illegalMsgChar : List Char := "ein Offenes Buchstaben Literal".toList

abbrev Out := Tok × St × List Char × List Char × List Diag

/-- `newToken(ty)` after a sub-scanner: token, state, covered text, remaining input, diagnostics -/
def emit (ty : TokenType) (s0 : St) (c : Char) (r : Sub) (d : List Diag) : Out :=
  ((mkTok ty s0.pos r.st (c :: r.consumed)).1, (mkTok ty s0.pos r.st (c :: r.consumed)).2,
    c :: r.consumed, r.rest, d)

/-- a token consisting of the single rune `c` -/
def emitSingle (ty : TokenType) (s0 : St) (c : Char) (cs : List Char) : Out :=
  emit ty s0 c { st := s0.adv c, consumed := [], rest := cs } []

/-- `errorToken(msg)` -/
def emitIllegal (msg : List Char) (s0 : St) (c : Char) (r : Sub) : Out :=
  (⟨.ILLEGAL, msg, r.st.indent, s0.pos, r.st.pos⟩, r.st, c :: r.consumed, r.rest, r.diags)

/-- `identifier(start)` -/
def scanIdent (m : Mode) (s0 : St) (c : Char) (cs : List Char) : Out :=
  let r := takeWhileSt isAlphaNumeric (s0.adv c) cs
  let ty := identifierType (c :: r.consumed)
  let report := m.strict && s0.shouldCapitalize && !isUpper c
  emit ty s0 c r (if report && ty ≠ .IDENTIFIER then [⟨.expectedCapital, s0.pos, (s0.adv c).pos⟩] else [])

def scanNum (s0 : St) (c : Char) (cs : List Char) : Out :=
  let rn := scanNumber (s0.adv c) cs
  emit (if rn.2 then .FLOAT else .INT) s0 c rn.1 []

def scanDot (s0 : St) (c : Char) (cs : List Char) : Out :=
  match cs with
  | '.' :: '.' :: ds => emit .ELIPSIS s0 c { st := ((s0.adv c).adv '.').adv '.', consumed := ['.', '.'], rest := ds } []
  | _ => emitSingle .DOT s0 c cs

def scanStringTok (s0 : St) (c : Char) (cs : List Char) : Out :=
  let r := scanQuoted '"' (s0.adv c) cs
  if r.flag then emit .STRING s0 c r r.diags else emitIllegal illegalMsgString s0 c r

def scanCharTok (s0 : St) (c : Char) (cs : List Char) : Out :=
  let r := scanQuoted '\'' (s0.adv c) cs
  if r.flag then
    let n := r.consumed.length + 1
    let tooLarge : Bool := !(n == 3 || (n == 4 && r.flag2))
    emit .CHAR s0 c r (r.diags ++ (if tooLarge then [⟨.malformedLiteral, s0.pos, r.st.pos⟩] else []))
  else emitIllegal illegalMsgChar s0 c r

def scanCommentTok (s0 : St) (c : Char) (cs : List Char) : Out :=
  emit .COMMENT s0 c (scanComment (s0.adv c) 1 cs) []

def scanPlaceholderTok (s0 : St) (c : Char) (cs : List Char) : Out :=
  let r := scanPlaceholder s0.pos c (s0.adv c) cs
  emit .ALIAS_PARAMETER s0 c r r.diags

/-- the part of `NextToken` after `skipWhitespace` when the input is not at its end:
`c` is the rune returned by the first `advance()`. -/
def scanBody (m : Mode) (s0 : St) (c : Char) (cs : List Char) : Out :=
  if isAlpha c then scanIdent m s0 c cs
  else if isDigit c then scanNum s0 c cs
  else if c = '-' then emitSingle .NEGATE s0 c cs
  else if c = '.' then scanDot s0 c cs
  else if c = ',' then emitSingle .COMMA s0 c cs
  else if c = ':' then emitSingle .COLON s0 c cs
  else if c = '(' then emitSingle .LPAREN s0 c cs
  else if c = ')' then emitSingle .RPAREN s0 c cs
  else if c = '"' then scanStringTok s0 c cs
  else if c = '\'' then scanCharTok s0 c cs
  else if c = '[' then scanCommentTok s0 c cs
  else if c = '<' && m.alias then scanPlaceholderTok s0 c cs
  else emitSingle .SYMBOL s0 c cs

structure Result where
  segs : List Seg
  trailing : List Char      -- blanks skipped before EOF
  eof : Tok
  diags : List Diag
  deriving Repr

/-- `ScanAll` with fuel; `none` = fuel exhausted (proved impossible for
`fuel > input length`: `scanAllFuel_total`, `DDP/Proofs/Scanner.lean`). -/
def scanAllFuel (m : Mode) : Nat → St → List Char → Option Result
  | 0, _, _ => none
  | fuel + 1, s, src =>
    let w := skipWs s 0 src
    match w.rest with
    | [] =>
      let (t, _) := mkTok .EOF w.st.pos w.st []
      some { segs := [], trailing := w.consumed, eof := t, diags := [] }
    | c :: cs =>
      let (t, st, body, rest, d) := scanBody m w.st c cs
      match scanAllFuel m fuel st rest with
      | none => none
      | some r => some { r with segs := ⟨w.consumed, body, t⟩ :: r.segs, diags := d ++ r.diags }

def initSt (origin : Pos) (indent : Nat) : St :=
  { pos := origin, indent := indent, shouldIndent := true, shouldCapitalize := true }

/-- `scanner.Scan` (mode none/strict, origin 1:1) and `scanner.ScanAlias`
(alias mode, origin = position and indent of the alias literal token) -/
def scan (m : Mode) (origin : Pos) (indent : Nat) (src : List Char) : Option Result :=
  scanAllFuel m (src.length + 1) (initSt origin indent) src

def Result.tokens (r : Result) : List Tok := r.segs.map (·.tok) ++ [r.eof]

end DDP.Scanner
